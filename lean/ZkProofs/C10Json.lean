import ZkProofs.Lemmas.JsonProofs
import ZkProofs.C10
import ZkModel.Generated.Layouts
/-!
# C10 — the JSON witness codec (`rln_witness_to_json` / `rln_witness_from_json` /
`rln_witness_to_bigint_json`, protocol.rs:728-803)

The model (`ZkModel/Json.lean`) is tied to the code by the C10 correspondence streams `json_text`,
`bigint_text` (the implementation's compact JSON text = `Json.render` of the model, byte for byte)
and `json_from` (objects given field by field, with the deviations an independent producer could
make). The theorems are about the model, for every witness and every object.
-/
namespace Zk
open Zk.Codec Zk.Protocol Zk.Json Zk.Proto

/-- lossless round trip: every canonical witness in range is encoded, and decoding the object
    gives it back -/
theorem C10_json_roundtrip : ∀ w : Witness, CanonW w → w.messageId < w.userMessageLimit →
    ∃ o, witnessToJson w = .ok o ∧ witnessFromJson o = .ok w := Json.roundtrip

/-- non-vacuity: `C10.exW` (path `[P-1, 5]`) meets the hypotheses and round-trips by evaluation -/
example : (witnessToJson C10.exW).bind witnessFromJson = .ok C10.exW := by decide +kernel

/-- the encoders refuse exactly the out-of-range witnesses and never panic -/
theorem C10_json_encode_err : ∀ w : Witness,
    (witnessToJson w = .err ↔ w.userMessageLimit ≤ w.messageId) ∧ witnessToJson w ≠ .panic ∧
    (witnessToBigintJson w = .err ↔ w.userMessageLimit ≤ w.messageId) ∧ witnessToBigintJson w ≠ .panic :=
  Json.encode_err

example : witnessToJson ⟨1, 5, 5, [], [], 0, 0⟩ = .err := by decide +kernel

/-- nothing non-canonical or out of range comes in through JSON -/
theorem C10_json_decode_canonical : ∀ (o : JObj) (w : Witness), witnessFromJson o = .ok w →
    w.identitySecret < P ∧ w.userMessageLimit < P ∧ w.messageId < P ∧ w.x < P ∧ w.externalNullifier < P ∧
    (∀ e ∈ w.pathElements, e < P) ∧ w.messageId < w.userMessageLimit := Json.decode_canonical

/-- the 32 bytes of `P` in the field `x` are refused (as a panic: the decoder unwraps) -/
example : witnessFromJson [("identity_secret", bytesVal (frToBytesLe 1)), ("user_message_limit", bytesVal (frToBytesLe 5)),
    ("message_id", bytesVal (frToBytesLe 2)), ("path_elements", bytesVal (vecFrToBytesLe [])), ("identity_path_index", .nums []),
    ("x", bytesVal (natLE 32 P)), ("external_nullifier", bytesVal (frToBytesLe 0))] = .panic := by decide +kernel

/-- the encoding loses nothing -/
theorem C10_json_encode_injective : ∀ (w w' : Witness) (o : JObj), CanonW w → CanonW w' →
    witnessToJson w = .ok o → witnessToJson w' = .ok o → w = w' := Json.encode_injective

/-- the JSON fields are the fields of the documented byte layout -/
theorem C10_json_matches_bytes : JsonMatchesBytesStmt := Json.matches_bytes

/-- the circom input file holds the decimal numerals of the fields -/
theorem C10_bigint_json : BigintJsonStmt := Json.bigint

example : (witnessToBigintJson C10.exW).map render =
    .ok ("{\"externalNullifier\":\"" ++ Nat.repr (P - 2) ++ "\",\"identityPathIndex\":[\"0\",\"1\"],\"identitySecret\":\"11\"," ++
         "\"messageId\":\"3\",\"pathElements\":[\"" ++ Nat.repr (P - 1) ++ "\",\"5\"],\"userMessageLimit\":\"100\",\"x\":\"77\"}") := by
  decide +kernel

/-- observation about the decoder as it is: bytes after the 32nd of a field are not read. (The
    last sentence of C10 is anchored in `deserialize_witness`, whose strictness is
    `C10_witness_no_trailing_or_missing_bytes`; the JSON decoder is lenient inside a field.) -/
theorem C10_json_decoder_ignores_trailing : JsonDecoderIgnoresTrailingStmt := Json.decoder_ignores_trailing

/-! ## the tie to the source: `Generated/Layouts.lean` is rewritten on every run (`tools/extract.py`
from protocol.rs — the serde field table of `RLNWitnessInput`, the `json!` object of
`rln_witness_to_bigint_json` — which must agree with `zkh dump`, the keys and value shapes of both
exports of a marker witness as compiled; rows in key order, the order a `serde_json::Map` iterates
in). The model's objects have exactly these keys in this order, and the generated tables are the
ones the model was written from. -/

/-- the serde table as the source has it now: seven fields, every field element (and the vector
    of them) through `ark_se` / `ark_de`, the index list as a plain `Vec<u8>` -/
theorem C10_json_struct_source :
    Generated.Layouts.jsonStructNames = some ["external_nullifier", "identity_path_index", "identity_secret", "message_id",
      "path_elements", "user_message_limit", "x"] ∧
    Generated.Layouts.jsonStructKinds = some ["ark:Fr", "plain:Vec<u8>", "ark:Fr", "ark:Fr", "ark:Vec<Fr>", "ark:Fr", "ark:Fr"] :=
  ⟨rfl, rfl⟩

/-- the decimal export as the source has it now -/
theorem C10_json_bigint_source :
    Generated.Layouts.jsonBigintKeys = some ["externalNullifier", "identityPathIndex", "identitySecret", "messageId",
      "pathElements", "userMessageLimit", "x"] ∧
    Generated.Layouts.jsonBigintFields = some ["external_nullifier:dec", "identity_path_index:declist", "identity_secret:dec",
      "message_id:dec", "path_elements:declist", "user_message_limit:dec", "x:dec"] :=
  ⟨rfl, rfl⟩

/-- the model's objects carry exactly the keys of the source's tables, in the map's order -/
theorem C10_json_model_keys : ∀ (w : Witness) (o : JObj),
    (witnessToJson w = .ok o → Generated.Layouts.jsonStructNames = some (o.map (·.1))) ∧
    (witnessToBigintJson w = .ok o → Generated.Layouts.jsonBigintKeys = some (o.map (·.1))) := by
  intro w o
  constructor
  · intro h
    obtain ⟨rfl, -⟩ := Json.toJson_ok h
    exact C10_json_struct_source.1
  · intro h
    unfold witnessToBigintJson at h
    split at h
    · cases h; exact C10_json_bigint_source.1
    · cases h
    · cases h

end Zk
