import ZkProofs.Lemmas.TreeRun
import ZkProofs.Lemmas.FullProofs
import ZkProofs.Lemmas.OptimalProofs
import ZkProofs.Lemmas.IdealProofs
/-!
# The flat and the sparse tree on histories

Each operation of a backend refines the specification's (`applyOp_refines`), so a run is related to
the specification's run (`run_rel`); a related tree serves complete membership proofs through its
own `proof`, `leafIndex`, `computeRootFrom` and `verify`.
-/
namespace Zk.Tree

variable {α : Type} [Inhabited α]

/-! ## the membership-proof helpers of the two backends are the specification's -/

omit [Inhabited α] in
theorem Full.computeRootFrom_eq (H : α → α → α) (lf : α) (p : List (α × Nat)) :
    Full.computeRootFrom H lf p = Ideal.computeRoot H lf p :=
  Ideal.computeRoot_unique H (fun _ => rfl) (fun _ _ _ _ => rfl) p lf

omit [Inhabited α] in
theorem Optimal.computeRootFrom_eq (H : α → α → α) (lf : α) (p : List (α × Nat)) :
    Optimal.computeRootFrom H lf p = Ideal.computeRoot H lf p :=
  Ideal.computeRoot_unique H (fun _ => rfl) (fun _ _ _ _ => rfl) p lf

omit [Inhabited α] in
theorem Full.leafIndex_eq (p : List (α × Nat)) (hb : ∀ x ∈ p, x.2 = 0 ∨ x.2 = 1) :
    Full.leafIndex p = p.foldr (fun x acc => 2 * acc + x.2) 0 := by
  induction p with
  | nil => rfl
  | cons x r ih =>
    have ih' := ih (fun y hy => hb y (List.mem_cons_of_mem _ hy))
    unfold Full.leafIndex at ih' ⊢
    simp only [List.foldr_cons, ih']
    rcases hb x (List.mem_cons_self) with h | h <;> simp [h]

/-! ## `FullMerkleTree` -/

section full
variable (H : α → α → α) (dflt : α)

theorem Full.applyOp_refines {t : Full α} {s : Ideal α} (h : Full.Rel H dflt t s) (op : TreeOp α) :
    RefinesOutcome (Full.Rel H dflt) t s (Full.applyOp H dflt t op) (Ideal.applyOp dflt s op) := by
  cases op with
  | set i v => exact Full.set_rel H dflt t s i v h
  | delete i =>
    obtain ⟨t', e, r⟩ := Full.delete_rel H dflt t s i h
    simp only [Full.applyOp, Ideal.applyOp, e, RefinesOutcome]
    exact r
  | append v => exact Full.append_rel H dflt t s v h
  | setRange start vs => exact Full.setRange_rel H dflt t s start vs h
  | batch start vs rem => exact Full.batch_rel H dflt t s start vs rem h
  | reset =>
    show Full.Rel H dflt (Full.new H dflt t.depth) (Ideal.new s.depth)
    rw [h.depth]
    exact Full.new_rel H dflt _

theorem Full.run_rel (d : Nat) (ops : List (TreeOp α)) :
    Full.Rel H dflt (Full.run H dflt d ops) (Ideal.run dflt d ops) :=
  List.foldl_rel (r := Full.Rel H dflt) (Full.new_rel H dflt d)
    fun op _ _ _ h => (Full.applyOp_refines H dflt h op).keep.1

theorem Full.stepOut_eq {t : Full α} {s : Ideal α} (h : Full.Rel H dflt t s) (op : TreeOp α) :
    Full.stepOut H dflt t op = Ideal.stepOut dflt s op := by
  have hok := (Full.applyOp_refines H dflt h op).keep.2.1
  cases op with
  | delete | reset => rfl
  | set | append | setRange | batch => exact hok

/-- C07 completeness for a tree related to an ideal tree -/
theorem Full.proof_complete_of_rel [BEq α] [LawfulBEq α] {t : Full α} {s : Ideal α}
    (h : Full.Rel H dflt t s) (i : Nat) (hi : i < 2 ^ s.depth) :
    ∃ π, t.proof i = .ok π ∧ t.get i = .ok (s.leaf dflt i) ∧ π.length = s.depth ∧
      Full.leafIndex π = i ∧ (∀ x ∈ π, x.2 = 0 ∨ x.2 = 1) ∧
      Full.computeRootFrom H (s.leaf dflt i) π = t.root ∧
      Full.verify H t (s.leaf dflt i) π = .ok true := by
  obtain ⟨hroot, _, hget, _, _, hproof⟩ := Full.obs_eq H dflt t s h
  obtain ⟨hp, hg, hlen, hdec, hbits, hcr⟩ := Ideal.opening_of_obs H dflt s hi hroot (hget i) (hproof i)
  rw [← Full.computeRootFrom_eq] at hcr
  refine ⟨_, hp, hg, hlen, (Full.leafIndex_eq _ hbits).trans hdec, hbits, hcr, ?_⟩
  unfold Full.verify
  rw [hcr, beq_self_eq_true]

end full

/-! ## `OptimalMerkleTree` -/

section optimal
variable (M : Type) [MapLike M (Nat × Nat) α] [LawfulMapLike M (Nat × Nat) α]
  (H : α → α → α) (dflt : α)

theorem Optimal.applyOp_refines {t : Optimal α M} {s : Ideal α} (h : Optimal.Rel H dflt t s)
    (op : TreeOp α) :
    RefinesOutcome (Optimal.Rel H dflt) t s (Optimal.applyOp H dflt t op) (Ideal.applyOp dflt s op) := by
  cases op with
  | set i v => exact Optimal.set_rel M H dflt t s i v h
  | delete i =>
    obtain ⟨t', e, r⟩ := Optimal.delete_rel M H dflt t s i h
    simp only [Optimal.applyOp, Ideal.applyOp, e, RefinesOutcome]
    exact r
  | append v => exact Optimal.append_rel M H dflt t s v h
  | setRange start vs => exact Optimal.setRange_rel M H dflt t s start vs h
  | batch start vs rem => exact Optimal.batch_rel M H dflt t s start vs rem h
  | reset =>
    show Optimal.Rel H dflt (Optimal.new H dflt t.depth) (Ideal.new s.depth)
    rw [← h.depth]
    exact Optimal.new_rel M H dflt _ h.inv.depth_pos

theorem Optimal.run_rel (d : Nat) (hd : 0 < d) (ops : List (TreeOp α)) :
    Optimal.Rel H dflt (Optimal.run (M := M) H dflt d ops) (Ideal.run dflt d ops) :=
  List.foldl_rel (r := Optimal.Rel H dflt) (Optimal.new_rel M H dflt d hd)
    fun op _ _ _ h => (Optimal.applyOp_refines M H dflt h op).keep.1

theorem Optimal.stepOut_eq {t : Optimal α M} {s : Ideal α} (h : Optimal.Rel H dflt t s) (op : TreeOp α) :
    Optimal.stepOut H dflt t op = Ideal.stepOut dflt s op := by
  have hok := (Optimal.applyOp_refines M H dflt h op).keep.2.1
  cases op with
  | delete | reset => rfl
  | set | append | setRange | batch => exact hok

omit [LawfulMapLike M (Nat × Nat) α] in
theorem Optimal.proof_complete_of_rel [BEq α] [LawfulBEq α] {t : Optimal α M} {s : Ideal α}
    (h : Optimal.Rel H dflt t s) (i : Nat) (hi : i < 2 ^ s.depth) :
    ∃ π, t.proof i = .ok π ∧ t.get i = .ok (s.leaf dflt i) ∧ π.length = s.depth ∧
      Optimal.leafIndex π = i ∧ (∀ x ∈ π, x.2 = 0 ∨ x.2 = 1) ∧
      Optimal.computeRootFrom H (s.leaf dflt i) π = t.root ∧
      Optimal.verify H t (s.leaf dflt i) π = .ok true := by
  obtain ⟨hroot, _, hget, _, _, hproof⟩ := Optimal.obs_eq M H dflt t s h
  obtain ⟨hp, hg, hlen, hdec, hbits, hcr⟩ := Ideal.opening_of_obs H dflt s hi hroot (hget i) (hproof i)
  rw [← Optimal.computeRootFrom_eq] at hcr
  refine ⟨_, hp, hg, hlen, hdec, hbits, hcr, ?_⟩
  unfold Optimal.verify
  rw [hcr, hlen, h.depth, if_neg (fun c => c rfl), beq_self_eq_true]

end optimal

end Zk.Tree
