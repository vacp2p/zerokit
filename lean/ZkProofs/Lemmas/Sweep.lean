import ZkProofs.Lemmas.NodeFn
/-!
# Re-hashing the ancestors of a range of leaves, for any store

All three backends repair the hashes after a leaf write in the same way: level by level from the
leaves up, on each level the parents `lo … hi-1` of what changed one level down, one parent at a
time. `Sweep` is the state of that walk for a store read through `g`: `g0` is the node function
before the write (a hash tree), `lf` the leaves after it, `l` the level being rewritten and `p` the
next parent on it (`lo … p-1` are rewritten, `p … hi-1` still to come). A backend shows that one
iteration of its loop is `Sweep.step` (one node written, everything else kept) and that its change
of level is `Sweep.up` (nothing written).
-/
namespace Zk.Tree

variable {α : Type}

structure Sweep (H : α → α → α) (d : Nat) (g0 : Nat → Nat → α) (lf : Nat → α) (g : Nat → Nat → α)
    (l lo p hi : Nat) : Prop where
  leaves : ∀ i, i < 2 ^ d → g d i = lf i
  cons : ∀ m i, m < d → i < 2 ^ m → l < m ∨ (m = l ∧ (i < p ∨ hi ≤ i)) →
    g m i = H (g (m + 1) (2 * i)) (g (m + 1) (2 * i + 1))
  rest : ∀ m i, i < 2 ^ m → m < l ∨ (m = l ∧ (i < lo ∨ p ≤ i)) → g m i = g0 m i

namespace Sweep

variable {H : α → α → α} {d : Nat} {g0 g g' : Nat → Nat → α} {lf : Nat → α} {l lo p hi : Nat}

/-- the written leaves count as a finished level `d` (`p = hi`), so the walk begins with `up` -/
theorem init (hin : ∀ m i, m < d → i < 2 ^ m → g m i = g0 m i)
    (hout : ∀ i, i < lo ∨ hi ≤ i → g d i = g0 d i) :
    Sweep H d g0 (g d) g d lo hi hi :=
  ⟨fun _ _ => rfl, fun _ _ hm _ hc => absurd hc (by omega), fun m i hi hc => by
    rcases hc with hc | ⟨rfl, hc⟩
    · exact hin m i hc hi
    · exact hout i hc⟩

theorem step (h : Sweep H d g0 lf g l lo p hi) (hl : l < d) (hlo : lo ≤ p)
    (hset : g' l p = H (g (l + 1) (2 * p)) (g (l + 1) (2 * p + 1)))
    (hframe : ∀ m i, i < 2 ^ m → ¬(m = l ∧ i = p) → g' m i = g m i) :
    Sweep H d g0 lf g' l lo (p + 1) hi := by
  refine ⟨fun i hi => ?_, fun m i hm hi hc => ?_, fun m i hi hc => ?_⟩
  · rw [hframe d i hi (by omega)]
    exact h.leaves i hi
  · rw [hframe (m + 1) (2 * i) (by omega) (by omega), hframe (m + 1) (2 * i + 1) (by omega) (by omega)]
    by_cases hip : m = l ∧ i = p
    · rw [hip.1, hip.2]
      exact hset
    · rw [hframe m i hi hip]
      exact h.cons m i hm hi (by omega)
  · rw [hframe m i hi (by omega)]
    exact h.rest m i hi (by omega)

theorem up (hg0 : HashTree H d g0) (h : Sweep H d g0 lf g (l + 1) lo hi hi) {lo' hi' : Nat}
    (hlo : 2 * lo' ≤ lo) (hhi : hi ≤ 2 * hi') : Sweep H d g0 lf g l lo' lo' hi' := by
  refine ⟨h.leaves, fun m i hm hi hc => ?_, fun m i hi hc => h.rest m i hi (by omega)⟩
  by_cases hml : m = l
  · -- outside the new window neither the parent nor its children were touched
    subst hml
    rw [h.rest m i hi (by omega), h.rest (m + 1) (2 * i) (by omega) (by omega),
      h.rest (m + 1) (2 * i + 1) (by omega) (by omega)]
    exact hg0 m i hm hi
  · exact h.cons m i hm hi (by omega)

/-- `up` for a loop that counts its level down (`parent_depth -= 1` in `update_hashes`) -/
theorem up_pred (hg0 : HashTree H d g0) (h : Sweep H d g0 lf g l lo hi hi) (hl : l ≠ 0) {lo' hi' : Nat}
    (hlo : 2 * lo' ≤ lo) (hhi : hi ≤ 2 * hi') : Sweep H d g0 lf g (l - 1) lo' lo' hi' := by
  obtain ⟨k, rfl⟩ := Nat.exists_eq_succ_of_ne_zero hl
  exact h.up hg0 hlo hhi

theorem hashTree (h : Sweep H d g0 lf g 0 lo (p + 1) hi) : HashTree H d g := by
  intro m i hm hi
  refine h.cons m i hm hi ?_
  by_cases h0 : m = 0
  · subst h0
    exact .inr ⟨rfl, .inl (Nat.lt_of_lt_of_le hi (Nat.le_add_left 1 p))⟩
  · exact .inl (Nat.pos_of_ne_zero h0)

end Sweep

end Zk.Tree
