import ZkProofs.Lemmas.OptimalLemmas
/-!
# The sparse-map Merkle tree (`OptimalMerkleTree`) refines the ideal hash tree

The `Optimal.…Stmt`s of `TreeDefs.lean`, for every lawful map `M`. `Optimal.Rel` is `Sim` of the
node function `getNode` plus the size of the default cache; `set`, `update_next` and
`override_range` are `set_range` (with removals first).
-/
namespace Zk.Tree

variable {α : Type} [Inhabited α]

namespace Optimal

theorem Rel.sim {M : Type} [MapLike M (Nat × Nat) α] {H : α → α → α} {dflt : α} {t : Optimal α M}
    {s : Ideal α} (h : Optimal.Rel H dflt t s) : Sim H dflt t.depth t.next t.flags t.getNode s :=
  ⟨h.depth, h.next, h.inv.next_le, h.inv.fsize, h.inv.cons, h.leaves, h.flags⟩

theorem Rel.of_sim {M : Type} [MapLike M (Nat × Nat) α] {H : α → α → α} {dflt : α} {t : Optimal α M}
    {s : Ideal α} (hc : t.cached.size = t.depth + 1) (hd : 0 < t.depth)
    (h : Sim H dflt t.depth t.next t.flags t.getNode s) : Optimal.Rel H dflt t s :=
  ⟨⟨hc, h.fsize, h.next_le, hd, h.tree⟩, h.depth, h.next, h.leaves, h.flags⟩

theorem set_eq_setRange {M : Type} [MapLike M (Nat × Nat) α] (H : α → α → α) (t : Optimal α M) (i : Nat)
    (v : α) : Optimal.set H t i v = Optimal.setRange H t i [v] := by
  unfold Optimal.set Optimal.setRange
  by_cases h : i ≥ t.cap
  · rw [if_pos h, if_pos (by simp only [List.length_singleton]; omega)]
  · rw [if_neg h, if_neg (by simp only [List.length_singleton]; omega), if_neg (by simp)]
    -- `set` raises the flag after `update_hashes`, `set_range` (in `insertLeaves`) before it
    have e := updateHashes_withFlags H { t with nodes := MapLike.insert t.nodes (t.depth, i) v }
      (t.flags.setIfInBounds i 1) i 1
    have e2 := updateHashes_flags H { t with nodes := MapLike.insert t.nodes (t.depth, i) v } i 1
    have e3 : insertLeaves t i [v] = { t with nodes := MapLike.insert t.nodes (t.depth, i) v,
                                              flags := t.flags.setIfInBounds i 1 } := rfl
    simp only [e3, List.length_singleton]
    rw [e, e2]

theorem obs_eq (M : Type) [MapLike M (Nat × Nat) α] (H : α → α → α) (dflt : α) :
    Optimal.ObsStmt M H dflt := by
  intro t s h
  have hp : ∀ i, t.proof i = NodeFn.proof t.depth t.getNode i := fun i => by
    unfold Optimal.proof NodeFn.proof
    rw [proofAux_eq_path]
    rfl
  obtain ⟨o1, o2, o3, o4, o5, o6⟩ := h.sim.obs
  exact ⟨o1, o2, o3, o4, o5, fun i => (hp i).trans (o6 i)⟩

variable (M : Type) [MapLike M (Nat × Nat) α] [LawfulMapLike M (Nat × Nat) α] (H : α → α → α) (dflt : α)

theorem new_rel : Optimal.NewStmt M H dflt := fun d hd =>
  Rel.of_sim (mkCached_dflt H dflt d).1 hd (Sim.new fun l i hl _ => new_getNode H dflt d l i hl)

theorem setRange_rel : Optimal.SetRangeStmt M H dflt := by
  intro t s start vs h
  unfold Optimal.setRange Ideal.setRange Optimal.cap Ideal.cap
  rw [← h.depth]
  by_cases hfit : start + vs.length ≤ 2 ^ t.depth
  · rw [if_neg (by omega), if_pos hfit]
    cases vs with
    | nil => exact h
    | cons v r =>
      obtain ⟨hd, hc, htree, hleaf, hfs, hfl⟩ :=
        insert_update h.inv.depth_pos h.sim.tree hfit (List.cons_ne_nil v r)
      have hle := h.inv.next_le
      rw [if_neg (by simp)]
      refine Rel.of_sim ((congrArg Array.size hc).trans (h.inv.csize.trans (congrArg (· + 1) hd.symm)))
        (hd ▸ h.inv.depth_pos) ?_
      show Sim H dflt (updateHashes ..).depth (max t.next _) _ _ _
      rw [hd, h.next]
      exact h.sim.writeMany start (v :: r) htree (fun i _ => hleaf i) (hfs.trans h.inv.fsize)
        (fun i hi => hfl i (h.inv.fsize ▸ hi)) (by rw [← h.next]; simp only [List.length_cons] at hfit ⊢; omega)
  · rw [if_pos (by omega), if_neg hfit]
    exact h

theorem set_rel : Optimal.SetStmt M H dflt := by
  intro t s i v h
  rw [set_eq_setRange, Ideal.set_eq_setRange]
  exact setRange_rel M H dflt t s i [v] h

theorem append_rel : Optimal.AppendStmt M H dflt := by
  intro t s v h
  unfold Optimal.updateNext Ideal.append
  rw [h.next]
  exact set_rel M H dflt t s s.next v h

theorem delete_rel : Optimal.DeleteStmt M H dflt := by
  intro t s i h
  unfold Optimal.delete
  rw [h.next]
  split
  · next hi =>
    have hs := set_rel M H dflt t s i dflt h
    rw [Ideal.set, if_pos (h.sim.lt_cap hi)] at hs
    obtain ⟨t', e, r⟩ := hs.ok_right
    rw [e]
    exact ⟨_, rfl, Rel.of_sim r.inv.csize r.inv.depth_pos (r.sim.delete i hi)⟩
  · next hi => exact ⟨t, rfl, by unfold Ideal.delete; rw [if_neg hi]; exact h⟩

theorem deleteMany_rel :
    ∀ (rem : List Nat) (t : Optimal α M) (s : Ideal α), Optimal.Rel H dflt t s →
      ∃ t', Optimal.deleteMany H dflt t rem = .ok t' ∧ Optimal.Rel H dflt t' (Ideal.removeMany dflt s rem)
  | [], t, s, h => ⟨t, rfl, h⟩
  | i :: r, t, s, h => by
    obtain ⟨t1, e, h1⟩ := delete_rel M H dflt t s i h
    unfold Optimal.deleteMany Ideal.removeMany
    rw [e]
    exact deleteMany_rel r t1 _ h1

theorem batch_rel : Optimal.BatchStmt M H dflt := by
  intro t s start vs rem h
  unfold Optimal.overrideRange
  rw [show t.cap = s.cap by unfold Optimal.cap Ideal.cap; rw [h.depth]]
  obtain ⟨t1, h1, hr1⟩ := deleteMany_rel M H dflt rem t s h
  exact RefinesOutcome.batch h start vs rem ⟨t1, by rw [h1], hr1⟩
    (fun t' s' h' => setRange_rel M H dflt t' s' start vs h')

end Optimal

end Zk.Tree
