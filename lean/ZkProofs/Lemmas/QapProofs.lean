import ZkProofs.Lemmas.QapDefs
/-!
# Proofs about the witness map: where it fails and what length it returns

A run fails in the rows stage `rowsOf` or for want of the doubled domain (`overRows`); `rowsOf_spec`
is the trichotomy of the former: error (no domain), panic, or three vectors of domain length.
Model and specification are both `overRows F (rowsOf …)` for different `F`, so outcome kind, error
and length are proved once for any `F`. `witnessMapSpec_eq` is the Lagrange-basis form that
`C18Qap` evaluates in the kernel.
-/
namespace Zk.Qap

/-! ## row evaluation -/

theorem evalRow_ne_err (w : List Nat) (row : List (Nat × Nat)) : evalRow w row ≠ .err := by
  induction row with
  | nil => simp [evalRow]
  | cons t r ih =>
    obtain ⟨c, i⟩ := t
    simp only [evalRow]
    cases h1 : w[i]? <;> cases h2 : evalRow w r <;> simp_all

theorem evalRow_panic (w : List Nat) (row : List (Nat × Nat)) :
    evalRow w row = .panic ↔ ∃ t ∈ row, w.length ≤ t.2 := by
  induction row with
  | nil => simp [evalRow]
  | cons t r ih =>
    obtain ⟨c, i⟩ := t
    simp only [evalRow, List.mem_cons, exists_eq_or_imp, ← ih]
    cases h1 : w[i]? with
    | none => simp [List.getElem?_eq_none_iff.mp h1]
    | some v =>
      have hn : ¬ w.length ≤ i := Nat.not_le.mpr (List.getElem?_eq_some_iff.mp h1).1
      cases h2 : evalRow w r <;> simp [hn]

theorem row_spec : QapRowStmt := fun w row => ⟨evalRow_ne_err w row, evalRow_panic w row⟩

theorem evalRows_ne_err (w : List Nat) (l : List (List (Nat × Nat))) : evalRows w l ≠ .err := by
  induction l with
  | nil => simp [evalRows]
  | cons r rs ih =>
    have h0 := evalRow_ne_err w r
    simp only [evalRows]
    cases h1 : evalRow w r <;> cases h2 : evalRows w rs <;> simp_all

theorem evalRows_length {w : List Nat} {l : List (List (Nat × Nat))} {vs : List Nat}
    (h : evalRows w l = .ok vs) : vs.length = l.length := by
  induction l generalizing vs with
  | nil => cases h; rfl
  | cons r rs ih =>
    simp only [evalRows] at h
    split at h
    · next hrs =>
      cases h
      rw [List.length_cons, List.length_cons, ih hrs]
    all_goals cases h

/-! ## the vectors of the evaluation domain -/

theorem logSize_le (n : Nat) (h : logSize n ≤ 28) : n ≤ 2 ^ logSize n := by
  unfold logSize at *
  cases hf : (List.range 65).find? (fun k => n ≤ 2 ^ k) with
  | none => simp [hf] at h
  | some k => simpa [hf] using List.find?_some hf

theorem length_padTo {n : Nat} {l : List Nat} (h : l.length ≤ n) : (padTo n l).length = n := by
  rw [padTo, List.length_append, List.length_replicate]
  omega

theorem rowsOf_spec (A B : List (List (Nat × Nat))) (ni nc : Nat) (w : List Nat) :
    (rowsOf A B ni nc w = .err ∧ 28 < logSize (nc + ni)) ∨ rowsOf A B ni nc w = .panic ∨
    ∃ a b c, rowsOf A B ni nc w = .ok (logSize (nc + ni), a, b, c) ∧ a.length = 2 ^ logSize (nc + ni) ∧
      b.length = 2 ^ logSize (nc + ni) ∧ c.length = 2 ^ logSize (nc + ni) := by
  unfold rowsOf
  simp only []
  split
  · next hk => exact .inl ⟨rfl, hk⟩
  · next hk =>
    have hle := logSize_le (nc + ni) (by omega)
    cases ha : evalRows w (A.take (min nc (min A.length B.length))) with
    | err => exact absurd ha (evalRows_ne_err _ _)
    | panic => exact .inr (.inl rfl)
    | ok av =>
      cases hb : evalRows w (B.take (min nc (min A.length B.length))) with
      | err => exact absurd hb (evalRows_ne_err _ _)
      | panic => exact .inr (.inl rfl)
      | ok bv =>
        have hla : av.length ≤ nc := by rw [evalRows_length ha, List.length_take]; omega
        have hlb : bv.length ≤ nc := by rw [evalRows_length hb, List.length_take]; omega
        simp only []
        split
        · next hni =>
          refine .inr (.inr ⟨_, _, _, rfl, length_padTo ?_, length_padTo ?_, length_padTo ?_⟩)
          · rw [List.length_append, length_padTo hla, List.length_take, Nat.min_eq_left hni]
            exact hle
          · omega
          · rw [List.length_take]; omega
        · exact .inr (.inl rfl)

/-! ## model and specification

Both are the same wrapper around `rowsOf` and differ only in the vector `F k a b c` computed from the rows, which
the kind of outcome does not depend on. The lemmas below apply to `witnessMap` and `witnessMapSpec` as they stand
(`overRows ?F (rowsOf …)` unifies with either). -/

def overRows (F : Nat → List Nat → List Nat → List Nat → List Nat) :
    Outcome (Nat × List Nat × List Nat × List Nat) → Outcome (List Nat)
  | .ok (k, a, b, c) => if k + 1 > 28 then .err else .ok (F k a b c)
  | .err => .err
  | .panic => .panic

section
variable {F : Nat → List Nat → List Nat → List Nat → List Nat} {A B : List (List (Nat × Nat))} {ni nc : Nat}
  {w : List Nat}

theorem overRows_kind {G} (r) : (overRows F r = .panic ↔ overRows G r = .panic) ∧
    (overRows F r = .err ↔ overRows G r = .err) := by
  unfold overRows
  split <;> (try split) <;> simp

theorem overRows_err (h : overRows F (rowsOf A B ni nc w) = .err) : 28 < logSize (nc + ni) + 1 := by
  rcases rowsOf_spec A B ni nc w with ⟨_, hk⟩ | hr | ⟨a, b, c, hr, _⟩
  · omega
  · rw [hr] at h; cases h
  · rw [hr, overRows] at h
    split at h
    · assumption
    · cases h

theorem overRows_length {h : List Nat}
    (hF : ∀ k a b c, a.length = 2 ^ k → b.length = 2 ^ k → c.length = 2 ^ k → (F k a b c).length = 2 ^ k)
    (hh : overRows F (rowsOf A B ni nc w) = .ok h) : h.length = 2 ^ logSize (nc + ni) := by
  rcases rowsOf_spec A B ni nc w with ⟨hr, _⟩ | hr | ⟨a, b, c, hr, ha, hb, hc⟩
  · rw [hr] at hh; cases hh
  · rw [hr] at hh; cases hh
  · rw [hr, overRows] at hh
    split at hh
    · cases hh
    · cases hh
      exact hF _ _ _ _ ha hb hc

theorem outcome_agree : QapOutcomeAgreeStmt := fun _ _ _ _ _ => overRows_kind _

theorem err_spec : QapErrStmt := fun _ _ _ _ _ => overRows_err

theorem length_dft (w : Nat) (xs : List Nat) : (dft w xs).length = xs.length := by
  simp [dft]

theorem length_spec : QapLengthStmt := fun _ _ _ _ _ _ =>
  ⟨overRows_length fun k a b c ha hb hc => by simp [fft, distribute, ifft, length_dft, ha, hb, hc],
   overRows_length fun k a b c _ _ _ => by simp⟩

end

/-! ## the specification through the Lagrange basis

`lagrangeEval` inverts one denominator per term; written as a dot product with the basis values, the
three interpolations at a point share them. `C18Qap.lean` evaluates the specification in this form. -/

def lagrangeBasis (om n x : Nat) : List Nat := (List.range n).map fun kk =>
  fdiv ((List.range n).foldl (fun acc j => if j = kk then acc else fmul acc (fsub x (powMod om j P))) 1)
    ((List.range n).foldl (fun acc j => if j = kk then acc else fmul acc (fsub (powMod om kk P) (powMod om j P))) 1)

theorem lagrangeEval_eq (om : Nat) (es : List Nat) (x : Nat) :
    lagrangeEval om es x = sumF (List.zipWith fmul es (lagrangeBasis om es.length x)) := by
  unfold lagrangeEval lagrangeBasis
  show sumF _ = sumF _
  congr 1
  apply List.ext_getElem
  · simp
  · intro i h1 h2
    simp

theorem witnessMapSpec_eq (A B : List (List (Nat × Nat))) (ni nc : Nat) (w : List Nat) :
    witnessMapSpec A B ni nc w = overRows (fun k a b c => (List.range (2 ^ k)).map fun i =>
      let bs := lagrangeBasis (omega k) (2 ^ k) (fmul (omega (k + 1)) (powMod (omega k) i P))
      fsub (fmul (sumF (List.zipWith fmul a bs)) (sumF (List.zipWith fmul b bs))) (sumF (List.zipWith fmul c bs)))
      (rowsOf A B ni nc w) := by
  unfold witnessMapSpec overRows
  rcases rowsOf_spec A B ni nc w with ⟨hr, _⟩ | hr | ⟨a, b, c, hr, ha, hb, hc⟩
  · rw [hr]
  · rw [hr]
  · rw [hr]
    simp only [lagrangeEval_eq, ha, hb, hc]

end Zk.Qap
