import ZkProofs.Lemmas.TreeRun
import ZkProofs.Lemmas.PmProofs
import ZkProofs.Lemmas.IdealProofs
/-!
# Histories on the persistent tree (pmtree + adapter), no storage failure injected

`Pm.applyOp` is the adapter call for a `TreeOp`; `reset` is a fresh `Pm.new` on an empty store.
Unlike the `step`s of `TreeRun` (`keepOk`), `Pm.step` takes the state the action returns also on
`Err`: `PmM` threads the store, and the store counts its calls.
The batch with a non-empty removal list is not covered (open finding C08-pm-batch): the history
theorems assume `PmCovered`.
-/
namespace Zk.Tree

variable {α : Type} [Inhabited α] {D : Type} [MapLike D PmKey (PmVal α)]

/-- the operations for which the persistent backend is shown to refine the specification -/
def TreeOp.pmCovered : TreeOp α → Prop
  | .batch _ _ rem => rem = []
  | _ => True

def PmCovered (ops : List (TreeOp α)) : Prop := ∀ op ∈ ops, op.pmCovered

instance : (op : TreeOp α) → Decidable op.pmCovered
  | .batch _ _ rem => inferInstanceAs (Decidable (rem = []))
  | .set _ _ | .delete _ | .append _ | .setRange _ _ | .reset => isTrue trivial

instance (ops : List (TreeOp α)) : Decidable (PmCovered ops) :=
  inferInstanceAs (Decidable (∀ op ∈ ops, op.pmCovered))

def Pm.applyOp (S : Type) [MapLike S (Nat × Nat) α] (H : α → α → α) (dflt : α) (t : Pm α D) :
    TreeOp α → Pm α D × Outcome Unit
  | .set i v => Pm.set H i v t
  | .delete i => Pm.delete H dflt i t
  | .append v => Pm.updateNext H v t
  | .setRange start vs => Pm.setRange S H start vs t
  | .batch start vs rem => Pm.overrideRange S H dflt start vs rem t
  | .reset => Pm.new H dflt t.depth { kv := MapLike.empty }

def Pm.step (S : Type) [MapLike S (Nat × Nat) α] (H : α → α → α) (dflt : α) (t : Pm α D)
    (op : TreeOp α) : Pm α D :=
  (Pm.applyOp S H dflt t op).1

def Pm.stepOut (S : Type) [MapLike S (Nat × Nat) α] (H : α → α → α) (dflt : α) (t : Pm α D)
    (op : TreeOp α) : Bool :=
  (Pm.applyOp S H dflt t op).2.isOk

def Pm.run (S : Type) [MapLike S (Nat × Nat) α] (H : α → α → α) (dflt : α) (d : Nat)
    (ops : List (TreeOp α)) : Pm α D :=
  ops.foldl (Pm.step S H dflt) (Pm.new H dflt d { kv := MapLike.empty }).1

/-! ## lifting the per-operation lemmas -/

theorem PmRefines.keep {H : α → α → α} {dflt : α} {t : Pm α D} {s : Ideal α}
    {r : Pm α D × Outcome Unit} {os : Outcome (Ideal α)} (h : PmRefines H dflt t s r os) :
    Pm.Rel H dflt r.1 (keepOk s os) ∧ r.2 ≠ .panic := by
  obtain ⟨r1, r2⟩ := r
  cases r2 <;> cases os <;> simp [PmRefines, keepOk] at h ⊢ <;> exact h

section
variable [LawfulMapLike D PmKey (PmVal α)] (S : Type) [MapLike S (Nat × Nat) α]
  [LawfulMapLike S (Nat × Nat) α] (H : α → α → α) (dflt : α)

theorem Pm.step_rel {t : Pm α D} {s : Ideal α} (h : Pm.Rel H dflt t s) (op : TreeOp α)
    (hc : op.pmCovered) : Pm.Rel H dflt (Pm.step S H dflt t op) (Ideal.step dflt s op) := by
  cases op with
  | set i v => exact (Pm.set_rel D H dflt t s i v h).keep.1
  | delete i => exact (Pm.delete_rel D H dflt t s i h).2
  | append v => exact (Pm.append_rel D H dflt t s v h).keep.1
  | setRange start vs =>
    cases vs with
    | nil => rw [Ideal.step_setRange_nil]; exact h
    | cons v r => exact (Pm.setRange_rel D S H dflt t s start (v :: r) h (by simp)).keep.1
  | batch start vs rem =>
    have hc' : rem = [] := hc
    subst hc'
    exact (Pm.batch_rel_partial D S H dflt t s start vs h).keep.1
  | reset =>
    show Pm.Rel H dflt (Pm.new H dflt t.depth { kv := MapLike.empty }).1 (Ideal.new s.depth)
    rw [← h.depth]
    exact (Pm.new_rel D H dflt t.depth h.inv.depth_pos).2

theorem Pm.run_rel (d : Nat) (hd : 0 < d) (ops : List (TreeOp α)) (hc : PmCovered ops) :
    Pm.Rel H dflt (Pm.run (D := D) S H dflt d ops) (Ideal.run dflt d ops) :=
  List.foldl_rel (r := Pm.Rel H dflt) (Pm.new_rel D H dflt d hd).2
    fun op hop _ _ h => Pm.step_rel S H dflt h op (hc op hop)

end

/-! ## membership proofs of a related state -/

section
variable (H : α → α → α) (dflt : α)

omit [Inhabited α] in
theorem Pm.computeRootFrom_eq (lf : α) (p : List (α × Nat)) :
    Pm.computeRootFrom H lf p = Ideal.computeRoot H lf p :=
  Ideal.computeRoot_unique H (fun _ => rfl) (fun _ _ _ _ => rfl) p lf

theorem Pm.proof_complete_of_rel [BEq α] [LawfulBEq α] {t : Pm α D} {s : Ideal α}
    (h : Pm.Rel H dflt t s) (i : Nat) (hi : i < 2 ^ s.depth) :
    ∃ π, t.proof i = .ok π ∧ t.get i = .ok (s.leaf dflt i) ∧ π.length = s.depth ∧
      π.foldr (fun x acc => 2 * acc + x.2) 0 = i ∧ (∀ x ∈ π, x.2 = 0 ∨ x.2 = 1) ∧
      Pm.computeRootFrom H (s.leaf dflt i) π = t.root ∧
      Pm.verify H t (s.leaf dflt i) π = .ok true := by
  obtain ⟨hroot, _, hget, _, _, hproof⟩ := Pm.obs_eq D H dflt t s h
  obtain ⟨hp, hg, hlen, hdec, hbits, hcr⟩ := Ideal.opening_of_obs H dflt s hi hroot (hget i) (hproof i)
  rw [← Pm.computeRootFrom_eq] at hcr
  refine ⟨_, hp, hg, hlen, hdec, hbits, hcr, ?_⟩
  unfold Pm.verify
  rw [hcr, beq_self_eq_true]
  rfl

end

end Zk.Tree
