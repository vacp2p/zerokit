import ZkProofs.Lemmas.FieldBridge
import ZkProofs.Lemmas.BytesProofs
/-!
# Proofs of the protocol statements of `ProtoDefs.lean` (C03, C04, C12, C01)

Each function of the protocol is first put in closed form, an `if` over the conditions under which
it errs or panics with the specification in the remaining branch (`foldPath_eq`,
`proofValuesFromWitness_eq`, `generateProof_eq`; `recover_eq` and `verify_exact` are in
`BytesProofs.lean`). A statement is then that closed form rewritten, followed by `if_pos` / `if_neg`
or a `split`; the proving entry points are walked directly, and each stage's `ok` / `panic` inverts
by the stage lemma. Secret recovery (C03) is the one piece of algebra and is done in `ZMod P`.
-/
namespace Zk.Proto
open Zk Zk.Codec Zk.Protocol Zk.Public

/-! ## C04 — published values -/

theorem foldPath_eq (H : List Nat → Nat) (acc : Nat) (path : List Nat) (idx : List UInt8) :
    foldPath H acc path idx =
      if idx.length ≤ path.length then .ok (specRoot H acc path idx) else .panic := by
  induction path generalizing idx acc with
  | nil => cases idx <;> simp [foldPath, specRoot]
  | cons e es ih =>
    cases idx with
    | nil => simp [foldPath, specRoot]
    | cons b bs =>
      simp only [foldPath, specRoot, List.length_cons, Nat.add_le_add_iff_right]
      exact ih _ bs

theorem px_foldPath_cases (H : List Nat → Nat) (path : List Nat) (idx : List UInt8) (acc : Nat) :
    (idx.length ≤ path.length ∧ foldPath H acc path idx = .ok (specRoot H acc path idx)) ∨
    (idx.length > path.length ∧ foldPath H acc path idx = .panic) := by
  rw [foldPath_eq]
  by_cases h : idx.length ≤ path.length
  · exact .inl ⟨h, if_pos h⟩
  · exact .inr ⟨by omega, if_neg h⟩

theorem fadd_fmul (s x a : Nat) : fadd s (fmul x a) = (s + x * a) % P := by
  unfold fadd fmul; exact Nat.add_mod_mod _ _ _

theorem proofValuesFromWitness_eq (H : List Nat → Nat) (w : Witness) :
    proofValuesFromWitness H w =
      if w.userMessageLimit ≤ w.messageId then .err
      else if w.identityPathIndex.length ≤ w.pathElements.length then .ok (specProofValues H w)
      else .panic := by
  unfold proofValuesFromWitness computeTreeRoot messageIdRangeCheck
  by_cases hm : w.userMessageLimit ≤ w.messageId
  · rw [if_pos hm, if_pos hm]
  rw [if_neg hm, if_neg hm]
  simp only [foldPath_eq]
  by_cases hl : w.identityPathIndex.length ≤ w.pathElements.length
  · rw [if_pos hl, if_pos hl]
    simp only [specProofValues, fadd_fmul]
  · rw [if_neg hl, if_neg hl]

theorem proofValues_spec : ProofValuesSpecStmt := by
  intro H w hm hl
  rw [proofValuesFromWitness_eq, if_neg (by omega), if_pos hl]

theorem proofValues_reject : ProofValuesRejectStmt := by
  intro H w
  refine ⟨fun h => ?_, fun hm hl => ?_⟩
  · rw [proofValuesFromWitness_eq, if_pos h]
  · rw [proofValuesFromWitness_eq, if_neg (by omega), if_neg (by omega)]

theorem proofValues_ok {H : List Nat → Nat} {w : Witness} {v : ProofValues}
    (h : proofValuesFromWitness H w = .ok v) : v = specProofValues H w := by
  rw [proofValuesFromWitness_eq] at h
  split at h
  · cases h
  · split at h
    · cases h
      rfl
    · cases h

theorem proofValues_panic {H : List Nat → Nat} {w : Witness} (h : proofValuesFromWitness H w = .panic) :
    w.pathElements.length < w.identityPathIndex.length := by
  rw [proofValuesFromWitness_eq] at h
  split at h
  · cases h
  · split at h
    · cases h
    · omega

/-! ## C03 — secret recovery -/

theorem recover_secret : RecoverSecretStmt := by
  intro s a x1 x2 hs _ hx1 hx2 hne
  unfold computeIdSecret
  rw [if_neg hne]
  refine congrArg Outcome.ok (eq_of_cast_eq (fsub_lt _ _) hs ?_)
  have hx : (x1 : ZMod P) - (x2 : ZMod P) ≠ 0 := sub_ne_zero.mpr (cast_ne_of_ne hx1 hx2 hne)
  simp only [cast_fsub, cast_fmul, cast_fdiv, cast_fadd]
  -- the slope `(y₁ - y₂) / (x₁ - x₂)` is `a`
  rw [show (s : ZMod P) + x1 * a - (s + x2 * a) = (x1 - x2) * a by ring, mul_div_cancel_left₀ _ hx]
  ring

theorem recover_degenerate : RecoverDegenerateStmt := by
  intro x y1 y2
  unfold computeIdSecret
  rw [if_pos rfl]

theorem nullifier_signal_free : NullifierSignalFreeStmt := by
  intro H w x' v v' h h'
  cases proofValues_ok h
  cases proofValues_ok h'
  simp [specProofValues]

theorem nullifier_collision : NullifierCollisionStmt := by
  intro H s e m e' m' hne heq
  by_cases hin : H [s, e, m] = H [s, e', m']
  · refine ⟨[s, e, m], [s, e', m'], ?_, hin⟩
    intro hl
    apply hne
    simp only [List.cons.injEq, and_true, true_and] at hl
    exact Prod.ext hl.1 hl.2
  · refine ⟨[H [s, e, m]], [H [s, e', m']], ?_, heq⟩
    intro hl
    apply hin
    simpa using hl

/-! ### recovery on message encodings (given the proof-values codec round trip, C10) -/

theorem recover_different_epoch : RecoverDifferentEpochStmt := by
  intro v v' pb pb' hv hv' hp hp' hne
  rw [recover_eq hv hv' hp hp', if_neg hne]

theorem specRoot_lt (H : List Nat → Nat) (hH : ∀ l, H l < P) (leaf : Nat) (path : List Nat)
    (idx : List UInt8) (h : leaf < P) : specRoot H leaf path idx < P := by
  induction path generalizing idx leaf with
  | nil => simpa [specRoot] using h
  | cons e es ih =>
    cases idx with
    | nil => simpa [specRoot] using h
    | cons b bs =>
      rw [specRoot]
      apply ih
      split <;> exact hH _

theorem specProofValues_canon (H : List Nat → Nat) (w : Witness) (hH : ∀ l, H l < P)
    (hx : w.x < P) (he : w.externalNullifier < P) : CanonV (specProofValues H w) :=
  ⟨Nat.mod_lt _ P_pos, hH _, specRoot_lt H hH _ _ _ (hH _), hx, he⟩

theorem recover_from_messages : RecoverFromMessagesStmt := by
  intro H w x' v v' pb pb' hH hw hx' hne hp hp' h h'
  obtain ⟨hs, _, _, hx, he, _⟩ := hw
  cases proofValues_ok h
  cases proofValues_ok h'
  rw [recover_eq (specProofValues_canon H w hH hx he)
    (specProofValues_canon H { w with x := x' } hH hx' he) hp hp']
  simp only [specProofValues]
  rw [if_pos trivial, ← fadd_fmul, ← fadd_fmul, recover_secret _ _ _ _ hs (hH _) hx hx' hne]

/-! ## C12 — proving glue -/

theorem generateProof_eq {Pr : Type} (Pv : Prover Pr) (depth : Nat) (w : Witness) :
    generateProof Pv depth w =
      if w.userMessageLimit ≤ w.messageId then .err
      else if w.pathElements.length ≠ depth ∨ w.identityPathIndex.length ≠ depth then .panic
      else match Pv.prove w with
        | some p => .ok p
        | none => .err := by
  unfold generateProof inputsForWitnessCalculation messageIdRangeCheck
  by_cases hm : w.userMessageLimit ≤ w.messageId
  · rw [if_pos hm, if_pos hm]
  · rw [if_neg hm, if_neg hm]
    rfl

/-- The range check and the two length assertions of `generate_proof` are three of the six conjuncts
    of `CircuitSat`; each of the other three either holds or is one of the disjuncts of `OpenUnsat`. -/
theorem generateProof_ok {Pr : Type} {Pv : Prover Pr} {depth : Nat} {w : Witness} {p : Pr}
    (h : generateProof Pv depth w = .ok p) : CircuitSat depth w ∨ OpenUnsat w := by
  rw [generateProof_eq] at h
  split at h
  · cases h
  next hm =>
  split at h
  · cases h
  next hl =>
  unfold OpenUnsat
  refine Decidable.or_iff_not_imp_right.mpr fun hn => ?_
  simp only [not_or, not_exists, not_and, Nat.not_le, Nat.not_lt, ne_eq,
    Decidable.not_not] at hn
  exact ⟨hn.1, by omega, hn.2.1, by omega, by omega,
    fun b hb => Decidable.or_iff_not_imp_left.mpr (hn.2.2 b hb)⟩

theorem generateProof_panic {Pr : Type} {Pv : Prover Pr} {depth : Nat} {w : Witness}
    (h : generateProof Pv depth w = .panic) :
    w.pathElements.length ≠ depth ∨ w.identityPathIndex.length ≠ depth := by
  rw [generateProof_eq] at h
  split at h
  · cases h
  split at h
  · assumption
  · split at h <;> cases h

theorem prover_ok_sat : ProverOkSatStmt := by
  intro Pr Z Pv H depth bs msg h
  unfold generateRlnProofWithWitness at h
  split at h
  · cases h
  · cases h
  · next w n hd =>
    refine ⟨w, n, hd, ?_⟩
    split at h
    · cases h
    · cases h
    · split at h
      · next p hp => exact generateProof_ok hp
      · cases h
      · cases h

theorem prover_panic : ProverPanicStmt := by
  intro Pr Z Pv H depth bs h
  rcases h with h | h
  · unfold generateRlnProofWithWitness at h
    split at h
    · cases h
    · next hd => exact absurd hd (witness_decode_total bs)
    · next w n hd =>
      refine ⟨w, n, hd, ?_⟩
      split at h
      · cases h
      · next hv =>
        have := proofValues_panic hv
        omega
      · split at h
        · cases h
        · cases h
        · next hg => exact generateProof_panic hg
  · unfold Public.prove at h
    split at h
    · cases h
    · next hd => exact absurd hd (witness_decode_total bs)
    · next w n hd =>
      refine ⟨w, n, hd, ?_⟩
      split at h
      · cases h
      · cases h
      · next hg => exact generateProof_panic hg

/-! ## C01 — prove, then verify -/

theorem specRoot_zip (H : List Nat → Nat) (leaf : Nat) (path : List Nat) (idx : List UInt8) :
    specRoot H leaf path idx =
      Tree.Ideal.computeRoot (fun a b => H [a, b]) leaf (path.zip (idx.map (·.toNat))) := by
  induction path generalizing idx leaf with
  | nil => cases idx <;> rfl
  | cons e es ih =>
    cases idx with
    | nil => rfl
    | cons b bs =>
      simp only [List.map_cons, List.zip_cons_cons, specRoot, Tree.Ideal.computeRoot, ih,
        ← UInt8.toNat_inj, UInt8.toNat_zero]

theorem specRoot_proof (H : List Nat → Nat) (leaf : Nat) (π : List (Nat × Nat))
    (hb : ∀ x ∈ π, x.2 = 0 ∨ x.2 = 1) :
    specRoot H leaf (π.map (·.1)) (π.map (fun x => x.2.toUInt8)) =
      Tree.Ideal.computeRoot (fun a b => H [a, b]) leaf π := by
  rw [specRoot_zip, List.map_map, List.zip_map']
  refine congrArg _ ((List.map_congr_left fun x hx => ?_).trans (List.map_id π))
  rcases hb x hx with h | h <;> exact Prod.ext rfl (by simp [h])

theorem prove_then_verify : ProveThenVerifyStmt := by
  intro Pr Z Pv H h2f depth treeProof root s i lim m e signal π hC hH hh2f hs hlim he hi hsig
    hml hm16 hlm htp hπ hbits hroot
  let w : Witness :=
    { identitySecret := s, userMessageLimit := lim, messageId := m,
      pathElements := π.map (·.1), identityPathIndex := π.map (fun x => x.2.toUInt8), x := h2f signal,
      externalNullifier := e }
  have hin : proofInputsToWitness h2f treeProof (prepareProveInput s i lim m e signal) = .ok (w, 144) :=
    proveInput_roundtrip h2f treeProof s i lim m e signal π hs hlim (by omega) he hi hsig htp
  have hlen : w.pathElements.length = depth ∧ w.identityPathIndex.length = depth :=
    ⟨(List.length_map _).trans hπ, (List.length_map _).trans hπ⟩
  have hvals := proofValues_spec H w hml (by rw [hlen.1, hlen.2])
  have hsat : CircuitSat depth w := by
    refine ⟨hm16, hml, hlm, hlen.1, hlen.2, fun b hb => ?_⟩
    obtain ⟨x, hx, rfl⟩ := List.mem_map.mp hb
    exact (hbits x hx).imp (fun h => by rw [h]; rfl) (fun h => by rw [h]; rfl)
  obtain ⟨p, hprove, hver⟩ := hC.proves w hsat
  obtain ⟨henc, hdec⟩ := hC.codec p
  have hgen : generateProof Pv depth w = .ok p := by
    rw [generateProof_eq, if_neg (Nat.not_le.mpr hml), if_neg (by rw [hlen.1, hlen.2]; simp), hprove]
  have hcanon : CanonV (specProofValues H w) := specProofValues_canon H w hH (hh2f _) he
  have hvroot : (specProofValues H w).root = root := (specRoot_proof H _ π hbits).trans hroot
  have hvx : (specProofValues H w).x = h2f signal := rfl
  have hrootP : root < P := hvroot ▸ hcanon.2.2.1
  have hR := verifyRln_exact Z h2f root _ _ signal p true henc hcanon hsig hdec hver
  have hW := fun roots => verifyRoots_exact Z h2f roots _ _ signal p true henc hcanon hsig hdec hver
  refine ⟨Z.encode p ++ serializeProofValues (specProofValues H w), ?_, ?_,
    verify_exact Z henc hcanon hdec hver, ?_, ?_, ?_⟩
  · simp only [generateRlnProof, hin, hvals, hgen]
  · rw [List.length_append, henc, serializeProofValues_length]
  · simpa [hvroot, hvx] using hR
  · simpa [hvroot, hvx] using hW [root] (by simpa using hrootP)
  · simpa [hvx] using hW [] (by simp)

end Zk.Proto
