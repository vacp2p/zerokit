import ZkProofs.Lemmas.FullLemmas
/-!
# The flat-array tree (`FullMerkleTree`) refines the ideal hash tree

`Full.Rel` is the size of the array together with `Sim` of its node function `Full.fn`; every
statement of `TreeDefs.lean` about the flat tree follows from what `Sim` says about a range write,
a cleared flag, the fresh tree and the observables. `set`, `update_next` and `override_range` are
`set_range` (with removals first).
-/
namespace Zk.Tree

variable {α : Type} [Inhabited α]

namespace Full

theorem Rel.sim {H : α → α → α} {dflt : α} {t : Full α} {s : Ideal α} (h : Full.Rel H dflt t s) :
    Sim H dflt t.depth t.next t.flags (fn t.nodes) s :=
  ⟨h.depth, h.next, h.inv.next_le, h.inv.fsize, hashTree_fn.mp h.inv.cons, h.leaves, h.flags⟩

theorem Rel.of_sim {H : α → α → α} {dflt : α} {t : Full α} {s : Ideal α}
    (hsz : t.nodes.size = 2 ^ (t.depth + 1) - 1)
    (h : Sim H dflt t.depth t.next t.flags (fn t.nodes) s) : Full.Rel H dflt t s :=
  ⟨⟨hsz, h.fsize, h.next_le, hashTree_fn.mpr h.tree⟩, h.depth, h.next, h.leaves, h.flags⟩

theorem set_eq_setRange (H : α → α → α) (t : Full α) (i : Nat) (v : α) :
    Full.set H t i v = Full.setRange H t i [v] := by
  unfold Full.set
  by_cases hfit : i + [v].length ≤ 2 ^ t.depth
  · rw [setRange_ok H t hfit (List.cons_ne_nil v [])]
    dsimp only
    -- `set`'s own update of `next_index` repeats the one `set_range` has made
    rw [show max (max t.next (i + [v].length)) (i + 1) = max t.next (i + [v].length) from
      Nat.max_eq_left (Nat.le_max_right _ _)]
  · unfold Full.setRange Full.cap
    rw [if_pos (by omega)]

theorem setRange_rel (H : α → α → α) (dflt : α) : Full.SetRangeStmt H dflt := by
  intro t s start vs h
  by_cases hfit : start + vs.length ≤ 2 ^ t.depth
  · cases vs with
    | nil =>
      unfold Full.setRange Ideal.setRange Full.cap Ideal.cap
      rw [← h.depth, if_neg (by omega), if_pos hfit]
      exact h
    | cons v r =>
      have hne := List.cons_ne_nil v r
      obtain ⟨hsz, htree, hleaf⟩ := write_update h.inv.size h.sim.tree hfit hne
      have hle := h.inv.next_le
      rw [setRange_ok H t hfit hne, Ideal.setRange, Ideal.cap, ← h.depth, if_pos hfit]
      refine Rel.of_sim (hsz.trans h.inv.size) ?_
      rw [h.next]
      exact h.sim.writeMany start (v :: r) htree hleaf ((markRange_size _ _ _).trans h.inv.fsize)
        (fun i hi => markRange_get _ _ _ _ (by rw [h.inv.fsize]; exact hi))
        (by show max s.next _ ≤ _; rw [← h.next]; omega)
  · unfold Full.setRange Ideal.setRange Full.cap Ideal.cap
    rw [← h.depth, if_pos (by omega), if_neg hfit]
    exact h

theorem set_rel (H : α → α → α) (dflt : α) : Full.SetStmt H dflt := by
  intro t s i v h
  rw [set_eq_setRange, Ideal.set_eq_setRange]
  exact setRange_rel H dflt t s i [v] h

theorem append_rel (H : α → α → α) (dflt : α) : Full.AppendStmt H dflt := by
  intro t s v h
  unfold Full.updateNext Ideal.append
  rw [h.next]
  exact set_rel H dflt t s s.next v h

theorem delete_rel (H : α → α → α) (dflt : α) : Full.DeleteStmt H dflt := by
  intro t s i h
  unfold Full.delete
  rw [h.next]
  split
  · next hi =>
    have hs := set_rel H dflt t s i dflt h
    rw [Ideal.set, if_pos (h.sim.lt_cap hi)] at hs
    obtain ⟨t', e, r⟩ := hs.ok_right
    rw [e]
    exact ⟨_, rfl, Rel.of_sim r.inv.size (r.sim.delete i hi)⟩
  · next hi => exact ⟨t, rfl, by unfold Ideal.delete; rw [if_neg hi]; exact h⟩

theorem deleteMany_rel (H : α → α → α) (dflt : α) :
    ∀ (rem : List Nat) (t : Full α) (s : Ideal α), Full.Rel H dflt t s →
      ∃ t', Full.deleteMany H dflt t rem = .ok t' ∧ Full.Rel H dflt t' (s.removeMany dflt rem)
  | [], t, _, h => ⟨t, rfl, h⟩
  | i :: r, t, s, h => by
    obtain ⟨t1, e, h1⟩ := delete_rel H dflt t s i h
    unfold Full.deleteMany Ideal.removeMany
    rw [e]
    exact deleteMany_rel H dflt r t1 _ h1

theorem batch_rel (H : α → α → α) (dflt : α) : Full.BatchStmt H dflt := by
  intro t s start vs rem h
  unfold Full.overrideRange
  rw [show t.cap = s.cap by unfold Full.cap Ideal.cap; rw [h.depth]]
  obtain ⟨t1, h1, hr1⟩ := deleteMany_rel H dflt rem t s h
  exact RefinesOutcome.batch h start vs rem ⟨t1, by rw [h1], hr1⟩
    (fun t' s' h' => setRange_rel H dflt t' s' start vs h')

theorem new_rel (H : α → α → α) (dflt : α) : Full.NewStmt H dflt := fun d =>
  Rel.of_sim (new_size H dflt d) (Sim.new fun l i hl hi => new_fn H dflt d l i hl hi)

theorem obs_eq (H : α → α → α) (dflt : α) : Full.ObsStmt H dflt := by
  intro t s h
  have hg : ∀ i, t.get i = NodeFn.get t.depth (fn t.nodes) i := fun i => by
    unfold Full.get NodeFn.get Full.cap fn
    rw [leafAddr_eq_flat]
  have hp : ∀ i, t.proof i = NodeFn.proof t.depth (fn t.nodes) i := fun i => by
    unfold Full.proof NodeFn.proof Full.cap
    split
    · rfl
    · rw [leafAddr_eq_flat, proofAux_flat _ _ _ (by omega)]
  have hs : ∀ l i, t.getSubtreeRoot l i = NodeFn.getSubtreeRoot t.depth (fn t.nodes) l i := fun l i => by
    unfold Full.getSubtreeRoot NodeFn.getSubtreeRoot Full.cap
    rw [hg]
    by_cases hl : l > t.depth
    · rw [if_pos hl, if_pos hl]
    · rw [if_neg hl, if_neg hl, leafAddr_eq_flat, climb_flat _ _ _ (Nat.sub_le _ _),
        show t.depth - (t.depth - l) = l by omega]
      rfl
  obtain ⟨o1, o2, o3, o4, o5, o6⟩ := h.sim.obs
  exact ⟨o1, o2, fun i => (hg i).trans (o3 i), fun l i => (hs l i).trans (o4 l i), o5,
    fun i => (hp i).trans (o6 i)⟩

end Full

end Zk.Tree
