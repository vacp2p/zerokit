import ZkProofs.Lemmas.PmLemmas
import ZkProofs.Lemmas.ParProofs
/-!
# The persistent tree: the range write (`fill_nodes`, `batch_recalculate`, `put_batch`)

pmtree `set_range` collects the nodes on the paths to the written leaves in an in-memory map
(`fillNodes`), recomputes the inner ones bottom-up (`batchRecalc`) and writes the map back in one
batch. Everything is said about `view t sub`, what the tree reads once the map `sub` is written
over it. `fillNodes` enters a node with the value the tree reads, which leaves `view` alone, or
overwrites a leaf of the range (`fillNodes_kept`, by the induction principle `fillNodes_ind`); it
reaches every leaf of the range (`fillNodes_covers`); its map stores children in pairs below a
stored parent and its key log lists the map (`fillNodes_paired`). On such a map `batchRecalc` leaves
`view` a hash tree: a recomputed node hashes the final values of its children (`batchRecalc_local`),
any other is untouched together with its children (`batchRecalc_untouched`). No fact about which
inner nodes lie above the range is needed.
-/
namespace Zk.Tree
namespace Pm
open Zk.Par (InSub inSub_self inSub_disj not_inSub_child_self inSub_cases inSub_children)

/-! ## maps, without the tree -/

section
variable {α S : Type} [MapLike S (Nat × Nat) α]

/-- children are stored in pairs, and only below a stored parent -/
structure Paired (sub : S) : Prop where
  pair : ∀ l c, MapLike.get? sub (l + 1, 2 * c) ≠ none ↔ MapLike.get? sub (l + 1, 2 * c + 1) ≠ none
  up : ∀ l c, MapLike.get? sub (l + 1, 2 * c) ≠ none → MapLike.get? sub (l, c) ≠ none

theorem Paired.of_iff {sub sub' : S} (h : Paired sub)
    (hiff : ∀ k, MapLike.get? sub' k ≠ none ↔ MapLike.get? sub k ≠ none) : Paired sub' :=
  ⟨fun l c => by rw [hiff, hiff]; exact h.pair l c, fun l c hc => by rw [hiff] at hc ⊢; exact h.up l c hc⟩

theorem Paired.ancestor {sub : S} (h : Paired sub) {k : Nat × Nat} (hk : MapLike.get? sub k ≠ none)
    {d i : Nat} (hin : InSub d i k) : MapLike.get? sub (d, i) ≠ none := by
  obtain ⟨n, hn⟩ : ∃ n, k.1 = d + n := ⟨k.1 - d, (Nat.add_sub_cancel' hin.1).symm⟩
  induction n generalizing d i with
  | zero =>
    rcases inSub_cases hin with rfl | hc | hc
    · exact hk
    · exact absurd hc.1 (by omega)
    · exact absurd hc.1 (by omega)
  | succ n ih =>
    rcases inSub_cases hin with rfl | hc | hc
    · exact hk
    · exact h.up d i (ih hc (by omega))
    · exact h.up d i ((h.pair d i).mpr (ih hc (by omega)))

/-- on leaf level `dp`, `sub'` differs from `sub` only inside the block `[lo, lo+n)`, and there every
    leaf that lies in the range `[from_, from_+L.size)` holds its value of `L` -/
def Covers (dp : Nat) (L : Array α) (from_ lo n : Nat) (sub sub' : S) : Prop :=
  (∀ j, j < lo ∨ lo + n ≤ j → MapLike.get? sub' (dp, j) = MapLike.get? sub (dp, j)) ∧
  ∀ j, lo ≤ j → j < lo + n → from_ ≤ j → j < from_ + L.size → MapLike.get? sub' (dp, j) = L[j - from_]?

theorem Covers.skip {dp : Nat} {L : Array α} {from_ lo n : Nat} {sub : S}
    (h : lo + n ≤ from_ ∨ from_ + L.size ≤ lo) : Covers dp L from_ lo n sub sub :=
  ⟨fun _ _ => rfl, fun j _ _ _ _ => by omega⟩

theorem Covers.append {dp : Nat} {L : Array α} {from_ lo n : Nat} {sub sub1 sub2 : S}
    (h1 : Covers dp L from_ lo n sub sub1) (h2 : Covers dp L from_ (lo + n) n sub1 sub2) :
    Covers dp L from_ lo (n + n) sub sub2 := by
  refine ⟨fun j hj => ?_, fun j a b c d => ?_⟩
  · rw [h2.1 j (by omega), h1.1 j (by omega)]
  · by_cases hj : j < lo + n
    · rw [h2.1 j (by omega)]
      exact h1.2 j a hj c d
    · exact h2.2 j (by omega) (by omega) c d

variable [LawfulMapLike S (Nat × Nat) α]

theorem get?_insert_empty (k0 k : Nat × Nat) (v : α) :
    MapLike.get? (MapLike.insert (MapLike.empty : S) k0 v) k = if k0 = k then some v else none := by
  rw [LawfulMapLike.get?_insert, LawfulMapLike.get?_empty]

theorem insert_ne_none (sub : S) (k k' : Nat × Nat) (v : α) :
    MapLike.get? (MapLike.insert sub k v) k' ≠ none ↔ k' = k ∨ MapLike.get? sub k' ≠ none := by
  rw [LawfulMapLike.get?_insert]
  split
  · next e => exact ⟨fun _ => Or.inl e.symm, fun _ => Option.some_ne_none _⟩
  · next e => exact ⟨Or.inr, fun h => h.resolve_left fun e' => e e'.symm⟩

theorem insert_present_ne_none {sub : S} {k : Nat × Nat} (v : α) (hp : MapLike.get? sub k ≠ none)
    (k' : Nat × Nat) : MapLike.get? (MapLike.insert sub k v) k' ≠ none ↔ MapLike.get? sub k' ≠ none := by
  rw [insert_ne_none]
  exact ⟨fun h => h.elim (fun e => e ▸ hp) id, Or.inr⟩

theorem batchRecalc_untouched (H : α → α → α) {f d i : Nat} {sub sub2 : S} {ks ks2 : List (Nat × Nat)} {v : α}
    (he : batchRecalc H f d i sub ks = some (v, sub2, ks2)) {k : Nat × Nat}
    (hk : ¬ InSub d i k ∨ d + f ≤ k.1 ∨ MapLike.get? sub (k.1 + 1, 2 * k.2) = none) :
    MapLike.get? sub2 k = MapLike.get? sub k := by
  rw [(Par.batchRecalc_main H sub f d i sub sub2 v ks ks2 (fun _ _ => rfl) he).2.2 k, Par.applyWrites_not_mem]
  intro hmem
  obtain ⟨w, hw, rfl⟩ := List.mem_map.mp hmem
  obtain ⟨h1, h2, x, h3⟩ := Par.writesOf_mem H sub f d i w hw
  rcases hk with hk | hk | hk
  · exact hk h1
  · exact Nat.lt_irrefl _ (Nat.lt_of_lt_of_le h2 hk)
  · rw [h3] at hk
    cases hk

variable {D : Type} [MapLike D PmKey (PmVal α)] [LawfulMapLike D PmKey (PmVal α)]

theorem foldl_insert_node (g : Nat × Nat → Option α) (d i : Nat) :
    ∀ (ks : List (Nat × Nat)) (m : D),
      MapLike.get? ((ks.filterMap (fun k => (g k).map (fun v => (PmKey.node k.1 k.2, PmVal.fr v)))).foldl
        (fun m kv => MapLike.insert m kv.1 kv.2) m) (PmKey.node d i) =
      if (d, i) ∈ ks ∧ g (d, i) ≠ none then (g (d, i)).map PmVal.fr else MapLike.get? m (PmKey.node d i)
  | [], m => by simp
  | k :: r, m => by
    cases hg : g k with
    | none =>
      rw [List.filterMap_cons_none (by rw [hg]; rfl), foldl_insert_node g d i r m]
      by_cases hk : (d, i) = k
      · subst hk; simp [hg]
      · simp [hk]
    | some v =>
      rw [List.filterMap_cons_some (by rw [hg]; rfl), List.foldl_cons, foldl_insert_node g d i r _,
        LawfulMapLike.get?_insert]
      by_cases hk : (d, i) = k
      · subst hk
        simp [hg]
      · have : ¬ (PmKey.node k.1 k.2 = PmKey.node d i) := by
          intro hc; injection hc with h1 h2
          apply hk; rw [← h1, ← h2]
        simp [hk, this]

theorem foldl_insert_other (g : Nat × Nat → Option α) (key : PmKey) (hkey : ∀ d i, key ≠ PmKey.node d i) :
    ∀ (ks : List (Nat × Nat)) (m : D),
      MapLike.get? ((ks.filterMap (fun k => (g k).map (fun v => (PmKey.node k.1 k.2, PmVal.fr v)))).foldl
        (fun m kv => MapLike.insert m kv.1 kv.2) m) key = MapLike.get? m key
  | [], m => by simp
  | k :: r, m => by
    cases hg : g k with
    | none =>
      rw [List.filterMap_cons_none (by rw [hg]; rfl), foldl_insert_other g key hkey r m]
    | some v =>
      rw [List.filterMap_cons_some (by rw [hg]; rfl), List.foldl_cons, foldl_insert_other g key hkey r _,
        LawfulMapLike.get?_insert, if_neg (fun h => hkey _ _ h.symm)]

end

variable {α : Type} [Inhabited α] {D : Type} [MapLike D PmKey (PmVal α)]
  {S : Type} [MapLike S (Nat × Nat) α]

/-! ## the batch map written over the tree -/

def view (t : Pm α D) (sub : S) (l c : Nat) : α := (MapLike.get? sub (l, c)).getD (t.getElem l c)

theorem view_congr (t : Pm α D) {sub sub' : S} {l c : Nat}
    (h : MapLike.get? sub' (l, c) = MapLike.get? sub (l, c)) : view t sub' l c = view t sub l c := by
  unfold view; rw [h]

theorem view_none (t : Pm α D) {sub : S} {l c : Nat} (h : MapLike.get? sub (l, c) = none) :
    view t sub l c = t.getElem l c := by
  unfold view; rw [h]; rfl

theorem view_some (t : Pm α D) {sub : S} {l c : Nat} {v : α} (h : MapLike.get? sub (l, c) = some v) :
    view t sub l c = v := by
  unfold view; rw [h]; rfl

/-! ## the two steps of `fillNodes` -/

/-- what `fill_nodes` does at the inner node `(d, i)` before it descends -/
def addChildren (t : Pm α D) (d i : Nat) (acc : S × List (Nat × Nat)) : S × List (Nat × Nat) :=
  (MapLike.insert (MapLike.insert acc.1 (d + 1, 2 * i) (t.getElem (d + 1) (2 * i)))
      (d + 1, 2 * i + 1) (t.getElem (d + 1) (2 * i + 1)),
    (d + 1, 2 * i + 1) :: (d + 1, 2 * i) :: acc.2)

theorem fillNodes_zero (t : Pm α D) (L : Array α) (from_ d i start end_ : Nat) (acc : S × List (Nat × Nat)) :
    fillNodes t L from_ 0 d i start end_ acc =
      if i ≥ from_ then (L[i - from_]?).map fun v => (MapLike.insert acc.1 (d, i) v, (d, i) :: acc.2)
      else some acc := by
  obtain ⟨sub, ks⟩ := acc
  rw [fillNodes]
  split
  · cases L[i - from_]? <;> rfl
  · rfl

theorem fillNodes_succ (t : Pm α D) (L : Array α) (from_ f d i start end_ : Nat) (acc : S × List (Nat × Nat)) :
    fillNodes t L from_ (f + 1) d i start end_ acc =
      (if start < 2 ^ f then
          fillNodes t L from_ f (d + 1) (2 * i) start (min end_ (2 ^ f)) (addChildren t d i acc)
        else some (addChildren t d i acc)).bind fun acc1 =>
        if end_ > 2 ^ f then fillNodes t L from_ f (d + 1) (2 * i + 1) 0 (end_ - 2 ^ f) acc1 else some acc1 := by
  have hb : ∀ (r : Option (S × List (Nat × Nat))) (g : S × List (Nat × Nat) → Option (S × List (Nat × Nat))),
      (match r with
        | none => none
        | some a => g a) = r.bind g := fun r g => by cases r <;> rfl
  obtain ⟨sub, ks⟩ := acc
  rw [fillNodes]
  exact hb _ _

variable [LawfulMapLike S (Nat × Nat) α]

theorem view_insert (t : Pm α D) (sub : S) (k : Nat × Nat) (v : α) (l c : Nat) :
    view t (MapLike.insert sub k v) l c = if k = (l, c) then v else view t sub l c := by
  unfold view
  rw [LawfulMapLike.get?_insert]
  split <;> rfl

theorem get?_addChildren_of_ne (t : Pm α D) (d i : Nat) (acc : S × List (Nat × Nat)) {k : Nat × Nat}
    (h : k.1 = d + 1 → k.2 / 2 ≠ i) : MapLike.get? (addChildren t d i acc).1 k = MapLike.get? acc.1 k := by
  unfold addChildren
  rw [LawfulMapLike.get?_insert, LawfulMapLike.get?_insert, if_neg, if_neg]
  · rintro rfl
    exact h rfl (Nat.mul_div_cancel_left i Nat.two_pos)
  · rintro rfl
    exact h rfl (by simp only; omega)

theorem addChildren_ne_none_iff (t : Pm α D) (d i : Nat) (acc : S × List (Nat × Nat)) (k : Nat × Nat) :
    MapLike.get? (addChildren t d i acc).1 k ≠ none ↔
      k = (d + 1, 2 * i + 1) ∨ k = (d + 1, 2 * i) ∨ MapLike.get? acc.1 k ≠ none := by
  unfold addChildren
  rw [insert_ne_none, insert_ne_none]

/-! ## what every insertion of `fillNodes` keeps -/

theorem fillNodes_ind (t : Pm α D) (L : Array α) (from_ : Nat) (P : S × List (Nat × Nat) → Prop)
    (hpair : ∀ acc d i, P acc → MapLike.get? acc.1 (d, i) ≠ none → P (addChildren t d i acc))
    (dp : Nat) (hleaf : ∀ acc i v, P acc → MapLike.get? acc.1 (dp, i) ≠ none → from_ ≤ i →
      L[i - from_]? = some v → P (MapLike.insert acc.1 (dp, i) v, (dp, i) :: acc.2)) :
    ∀ (f d i start end_ : Nat) (acc acc' : S × List (Nat × Nat)),
      d + f = dp → MapLike.get? acc.1 (d, i) ≠ none → P acc →
      fillNodes t L from_ f d i start end_ acc = some acc' →
      P acc' ∧ ∀ k, MapLike.get? acc.1 k ≠ none → MapLike.get? acc'.1 k ≠ none
  | 0, d, i, start, end_, acc, acc', hd, hp, h, he => by
    obtain rfl : d = dp := hd
    rw [fillNodes_zero] at he
    split at he
    · next hi =>
      obtain ⟨v, hv, rfl⟩ := Option.map_eq_some_iff.mp he
      exact ⟨hleaf acc i v h hp hi hv, fun k hk => (insert_present_ne_none v hp k).mpr hk⟩
    · cases he
      exact ⟨h, fun _ hk => hk⟩
  | f+1, d, i, start, end_, acc, acc', hd, hp, h, he => by
    rw [fillNodes_succ] at he
    obtain ⟨acc1, he1, he2⟩ := Option.bind_eq_some_iff.mp he
    have hc := addChildren_ne_none_iff t d i acc
    have h3 : P acc1 ∧ ∀ k, MapLike.get? (addChildren t d i acc).1 k ≠ none → MapLike.get? acc1.1 k ≠ none := by
      split at he1
      · exact fillNodes_ind t L from_ P hpair dp hleaf f (d + 1) (2 * i) _ _ _ acc1 (by omega)
          ((hc _).mpr (Or.inr (Or.inl rfl))) (hpair acc d i h hp) he1
      · cases he1
        exact ⟨hpair acc d i h hp, fun _ hk => hk⟩
    have h4 : P acc' ∧ ∀ k, MapLike.get? acc1.1 k ≠ none → MapLike.get? acc'.1 k ≠ none := by
      split at he2
      · exact fillNodes_ind t L from_ P hpair dp hleaf f (d + 1) (2 * i + 1) _ _ _ acc' (by omega)
          (h3.2 _ ((hc _).mpr (Or.inl rfl))) h3.1 he2
      · cases he2
        exact ⟨h3.1, fun _ hk => hk⟩
    exact ⟨h4.1, fun k hk => h4.2 k (h3.2 k ((hc k).mpr (Or.inr (Or.inr hk))))⟩

/-- no invariant on `t`: the fault theory applies this to torn trees -/
theorem fillNodes_kept (t : Pm α D) (L : Array α) (from_ : Nat) {f d i start end_ : Nat}
    {acc acc' : S × List (Nat × Nat)} (hd : d + f = t.depth) (hp : MapLike.get? acc.1 (d, i) ≠ none)
    {l c : Nat} (hout : l = t.depth → from_ ≤ c → from_ + L.size ≤ c)
    (h : view t acc.1 l c = t.getElem l c)
    (he : fillNodes t L from_ f d i start end_ acc = some acc') : view t acc'.1 l c = t.getElem l c := by
  refine (fillNodes_ind t L from_ (fun acc => view t acc.1 l c = t.getElem l c) (fun acc d i h _ => ?_) t.depth
    (fun acc i v h _ hi hv => ?_) f d i start end_ acc acc' hd hp h he).1
  · unfold addChildren
    rw [view_insert, view_insert]
    split
    · next e => cases e; rfl
    · split
      · next e => cases e; rfl
      · exact h
  · -- the leaf written is one of the range
    have := (Array.getElem?_eq_some_iff.mp hv).1
    rw [view_insert, if_neg fun e => by cases e; have := hout rfl hi; omega]
    exact h

/-! ## the shape of the map `fillNodes` builds -/

theorem Paired.withChildren {t : Pm α D} {d i : Nat} {acc : S × List (Nat × Nat)} (h : Paired acc.1)
    (hp : MapLike.get? acc.1 (d, i) ≠ none) : Paired (addChildren t d i acc).1 := by
  have hc := addChildren_ne_none_iff t d i acc
  have hother : ∀ l c, (l, c) ≠ (d, i) →
      MapLike.get? (addChildren t d i acc).1 (l + 1, 2 * c) = MapLike.get? acc.1 (l + 1, 2 * c) ∧
      MapLike.get? (addChildren t d i acc).1 (l + 1, 2 * c + 1) = MapLike.get? acc.1 (l + 1, 2 * c + 1) := by
    intro l c hne
    have hne' : l = d → c ≠ i := fun e1 e2 => hne (by rw [e1, e2])
    exact ⟨get?_addChildren_of_ne t d i acc fun e => by simp only at e ⊢; omega,
      get?_addChildren_of_ne t d i acc fun e => by simp only at e ⊢; omega⟩
  refine ⟨fun l c => ?_, fun l c hl => ?_⟩
  · by_cases e : (l, c) = (d, i)
    · cases e
      exact ⟨fun _ => (hc _).mpr (Or.inl rfl), fun _ => (hc _).mpr (Or.inr (Or.inl rfl))⟩
    · rw [(hother l c e).1, (hother l c e).2]
      exact h.pair l c
  · by_cases e : (l, c) = (d, i)
    · cases e
      exact (hc _).mpr (Or.inr (Or.inr hp))
    · rw [(hother l c e).1] at hl
      exact (hc _).mpr (Or.inr (Or.inr (h.up l c hl)))

theorem fillNodes_paired (t : Pm α D) (L : Array α) (from_ : Nat) {f d i start end_ : Nat}
    {acc acc' : S × List (Nat × Nat)} (hp : MapLike.get? acc.1 (d, i) ≠ none)
    (h : Paired acc.1) (hlog : ∀ k, MapLike.get? acc.1 k ≠ none → k ∈ acc.2)
    (he : fillNodes t L from_ f d i start end_ acc = some acc') :
    (Paired acc'.1 ∧ ∀ k, MapLike.get? acc'.1 k ≠ none → k ∈ acc'.2) ∧
      ∀ k, MapLike.get? acc.1 k ≠ none → MapLike.get? acc'.1 k ≠ none := by
  refine fillNodes_ind t L from_ (fun acc => Paired acc.1 ∧ ∀ k, MapLike.get? acc.1 k ≠ none → k ∈ acc.2)
    (fun acc d i h hp => ⟨h.1.withChildren hp, fun k hk => ?_⟩) (d + f)
    (fun acc i v h hp _ _ => ⟨h.1.of_iff (insert_present_ne_none v hp), fun k hk => ?_⟩)
    f d i start end_ acc acc' rfl hp ⟨h, hlog⟩ he
  · show k ∈ _ :: _ :: acc.2
    rw [List.mem_cons, List.mem_cons]
    exact ((addChildren_ne_none_iff t d i acc k).mp hk).imp_right (Or.imp_right (h.2 k))
  · exact List.mem_cons_of_mem _ (h.2 k ((insert_present_ne_none v hp k).mp hk))

/-! ## `fillNodes` succeeds and reaches every leaf of the range -/

/-- how `fill_nodes` addresses the range `[from_, e)` inside a block of `n` leaves from `lo` on: by
    bounds `start`, `end_` relative to `lo`. `end_iff` is stated per leaf `x` of the block to keep
    the arithmetic linear. After a turn to the right `start` is `0` even if the range begins further
    on, so leaves before `from_` are visited too: hence the first case of `start_le`. -/
structure Bounds (from_ e lo n start end_ : Nat) : Prop where
  start_le : start = 0 ∨ lo + start ≤ from_
  end_iff : ∀ x, x < n → (x < end_ ↔ lo + x < e)
  lo_lt : lo < e

namespace Bounds

variable {from_ e lo n start end_ : Nat}

theorem left (h : Bounds from_ e lo (n + n) start end_) : Bounds from_ e lo n start (min end_ n) :=
  ⟨h.start_le, fun x hx => by have := h.end_iff x (by omega); omega, h.lo_lt⟩

theorem right (h : Bounds from_ e lo (n + n) start end_) (hn : 0 < n) (he : end_ > n) :
    Bounds from_ e (lo + n) n 0 (end_ - n) :=
  ⟨Or.inl rfl, fun x hx => by have := h.end_iff (n + x) (by omega); omega,
    by have := h.end_iff n (by omega); omega⟩

end Bounds

theorem fillNodes_covers (t : Pm α D) (L : Array α) (from_ : Nat) :
    ∀ (f d i start end_ : Nat) (acc : S × List (Nat × Nat)) (lo : Nat),
      d + f = t.depth → lo = i * 2 ^ f → Bounds from_ (from_ + L.size) lo (2 ^ f) start end_ →
      ∃ acc', fillNodes t L from_ f d i start end_ acc = some acc' ∧
        Covers t.depth L from_ lo (2 ^ f) acc.1 acc'.1
  | 0, d, i, start, end_, acc, lo, hd, hlo, hb => by
    obtain rfl : d = t.depth := hd
    obtain rfl : lo = i := by rw [hlo, Nat.pow_zero, Nat.mul_one]
    have hb := hb.lo_lt
    rw [fillNodes_zero, Nat.pow_zero]
    by_cases hi : lo ≥ from_
    · have hlt : lo - from_ < L.size := by omega
      rw [if_pos hi, Array.getElem?_eq_getElem hlt]
      refine ⟨_, rfl, fun j hj => ?_, fun j h1 h2 _ _ => ?_⟩
      · show MapLike.get? (MapLike.insert acc.1 _ _) _ = _
        rw [LawfulMapLike.get?_insert, if_neg (by simp only [Prod.mk.injEq]; omega)]
      · obtain rfl : j = lo := by omega
        show MapLike.get? (MapLike.insert acc.1 _ _) _ = _
        rw [LawfulMapLike.get?_insert, if_pos rfl, Array.getElem?_eq_getElem hlt]
    · rw [if_neg hi]
      exact ⟨_, rfl, Covers.skip (Or.inl (by omega))⟩
  | f+1, d, i, start, end_, acc, lo, hd, hlo, hb => by
    -- the two children are not leaves of another block
    have hkids : ∀ j, j < lo ∨ lo + 2 ^ (f + 1) ≤ j →
        MapLike.get? (addChildren t d i acc).1 (t.depth, j) = MapLike.get? acc.1 (t.depth, j) := fun j hj =>
      get?_addChildren_of_ne t d i acc fun e => by
        obtain rfl : f = 0 := by simp only at e; omega
        simp only [Nat.zero_add, Nat.pow_one] at hlo hj ⊢
        omega
    obtain ⟨hl, hr, -⟩ := block_succ f i
    rw [← hlo] at hl hr
    have hpos := Nat.two_pow_pos f
    rw [Nat.pow_succ', Nat.two_mul] at hb hkids ⊢
    rw [fillNodes_succ]
    obtain ⟨acc1, e1, c1⟩ : ∃ acc1, (if start < 2 ^ f then
          fillNodes t L from_ f (d + 1) (2 * i) start (min end_ (2 ^ f)) (addChildren t d i acc)
        else some (addChildren t d i acc)) = some acc1 ∧
        Covers t.depth L from_ lo (2 ^ f) (addChildren t d i acc).1 acc1.1 := by
      split
      · exact fillNodes_covers t L from_ f (d + 1) (2 * i) start _ _ lo (by omega) hl.symm hb.left
      · next hs =>
        have := hb.start_le
        exact ⟨_, rfl, Covers.skip (Or.inl (by omega))⟩
    obtain ⟨acc2, e2, c2⟩ : ∃ acc2, (if end_ > 2 ^ f then
          fillNodes t L from_ f (d + 1) (2 * i + 1) 0 (end_ - 2 ^ f) acc1
        else some acc1) = some acc2 ∧ Covers t.depth L from_ (lo + 2 ^ f) (2 ^ f) acc1.1 acc2.1 := by
      split
      · next he =>
        exact fillNodes_covers t L from_ f (d + 1) (2 * i + 1) 0 _ acc1 _ (by omega) hr.symm (hb.right hpos he)
      · next he =>
        have := hb.end_iff (2 ^ f) (by omega)
        exact ⟨_, rfl, Covers.skip (Or.inr (by omega))⟩
    have c := c1.append c2
    exact ⟨acc2, by rw [e1]; exact e2, fun j hj => (c.1 j hj).trans (hkids j hj), c.2⟩

/-! ## `batchRecalc` on a paired map -/

theorem batchRecalc_local (H : α → α → α) (t : Pm α D) :
    ∀ (f d i : Nat) (sub : S) (ks : List (Nat × Nat)), d + f = t.depth → Paired sub →
      MapLike.get? sub (d, i) ≠ none →
      ∃ v sub2 ks2, batchRecalc H f d i sub ks = some (v, sub2, ks2) ∧ view t sub2 d i = v ∧
        (∀ k, MapLike.get? sub2 k ≠ none ↔ MapLike.get? sub k ≠ none) ∧
        (∀ l c, InSub d i (l, c) → l < t.depth → MapLike.get? sub (l + 1, 2 * c) ≠ none →
          view t sub2 l c = H (view t sub2 (l + 1) (2 * c)) (view t sub2 (l + 1) (2 * c + 1)))
  | 0, d, i, sub, ks, hd, _, hp => by
    obtain ⟨v, hv⟩ := Option.ne_none_iff_exists'.mp hp
    exact ⟨v, sub, ks, by rw [batchRecalc, hv]; rfl, view_some t hv, fun _ => Iff.rfl,
      fun l c hk hl => absurd hk.1 (by simp only; omega)⟩
  | f+1, d, i, sub, ks, hd, hw, hp => by
    obtain ⟨v, hv⟩ := Option.ne_none_iff_exists'.mp hp
    cases hx : MapLike.get? sub (d + 1, 2 * i) with
    | none =>
      refine ⟨v, sub, ks, by rw [batchRecalc, hx]; simp only [hv, Option.map_some], view_some t hv,
        fun _ => Iff.rfl, fun l c hk hl hc => ?_⟩
      -- a stored key below `(d, i)` would have its ancestor `(d + 1, 2 * i)` stored
      rcases inSub_cases (inSub_children hk).1 with e | hk' | hk'
      · cases e
        exact absurd hk.1 (Nat.not_succ_le_self l)
      · exact absurd hx (hw.ancestor hc hk')
      · exact absurd hx ((hw.pair d i).mpr (hw.ancestor hc hk'))
    | some x =>
      have hl0 : MapLike.get? sub (d + 1, 2 * i) ≠ none := by rw [hx]; exact Option.some_ne_none _
      obtain ⟨a, s1, k1, hr1, hroot1, hiff1, hloc1⟩ :=
        batchRecalc_local H t f (d + 1) (2 * i) sub ks (by omega) hw hl0
      obtain ⟨b, s2, k2, hr2, hroot2, hiff2, hloc2⟩ :=
        batchRecalc_local H t f (d + 1) (2 * i + 1) s1 k1 (by omega) (hw.of_iff hiff1)
          ((hiff1 _).mpr ((hw.pair d i).mp hl0))
      have hp2 : MapLike.get? s2 (d, i) ≠ none := (hiff2 _).mpr ((hiff1 _).mpr hp)
      have hfin : ∀ {j l c : Nat}, InSub (d + 1) j (l, c) →
          view t (MapLike.insert s2 (d, i) (H a b)) l c = view t s2 l c := fun hk => by
        rw [view_insert, if_neg fun e => not_inSub_child_self (e ▸ hk)]
      have hleft : ∀ {l c : Nat}, InSub (d + 1) (2 * i) (l, c) →
          view t (MapLike.insert s2 (d, i) (H a b)) l c = view t s1 l c := fun hk =>
        (hfin hk).trans (view_congr t (batchRecalc_untouched H hr2 (.inl fun h => inSub_disj hk h)))
      refine ⟨H a b, MapLike.insert s2 (d, i) (H a b), k2, ?_, by rw [view_insert, if_pos rfl],
        fun k => (insert_present_ne_none _ hp2 k).trans ((hiff2 k).trans (hiff1 k)),
        fun l c hk hl hc => ?_⟩
      · rw [batchRecalc, hx]
        simp only [hr1, hr2]
      · rcases inSub_cases hk with e | hk | hk
        · cases e
          rw [hleft (inSub_self _ _), hfin (inSub_self _ (2 * i + 1)), view_insert, if_pos rfl, hroot1, hroot2]
        · rw [hleft hk, hleft (inSub_children hk).1, hleft (inSub_children hk).2]
          exact hloc1 l c hk hl hc
        · rw [hfin hk, hfin (inSub_children hk).1, hfin (inSub_children hk).2]
          exact hloc2 l c hk hl ((hiff1 _).mpr hc)

theorem fill_recalc (H : α → α → α) (t : Pm α D) (hinv : Inv H t) (start : Nat) (vs : List α)
    (hne : vs ≠ []) :
    ∃ (sub1 : S) (keys : List (Nat × Nat)) (rootVal : α) (sub2 : S) (ks2 : List (Nat × Nat)),
      fillNodes t vs.toArray start t.depth 0 0 start (start + vs.length)
        (MapLike.insert (MapLike.empty : S) (0, 0) t.root, [(0, 0)]) = some (sub1, keys) ∧
      batchRecalc H t.depth 0 0 sub1 [] = some (rootVal, sub2, ks2) ∧
      (∀ k, MapLike.get? sub2 k ≠ none → k ∈ keys) ∧ HashTree H t.depth (view t sub2) ∧
      view t sub2 0 0 = rootVal ∧
      ∀ j, j < 2 ^ t.depth → view t sub2 t.depth j = Ideal.overlay (t.getElem t.depth) start vs j := by
  have hlen : 0 < vs.length := List.length_pos_iff.mpr hne
  have hsz : vs.toArray.size = vs.length := List.size_toArray
  generalize hsub0 : MapLike.insert (MapLike.empty : S) (0, 0) t.root = sub0
  have hs0 : ∀ k, MapLike.get? sub0 k = if (0, 0) = k then some t.root else none := fun k => by
    rw [← hsub0, get?_insert_empty]
  have hroot0 : MapLike.get? sub0 (0, 0) ≠ none := by
    rw [hs0, if_pos rfl]; exact Option.some_ne_none _
  have hP0 : Paired sub0 :=
    ⟨fun l c => by rw [hs0, hs0, if_neg (by simp), if_neg (by simp)],
      fun l c hc => by rw [hs0, if_neg (by simp)] at hc; exact absurd rfl hc⟩
  have hlog0 : ∀ k, MapLike.get? sub0 k ≠ none → k ∈ [((0 : Nat), (0 : Nat))] := fun k hk => by
    rw [hs0] at hk
    split at hk
    · next e => exact List.mem_singleton.mpr e.symm
    · exact absurd rfl hk
  have hK0 : ∀ l c, view t sub0 l c = t.getElem l c := fun l c => by
    by_cases e : ((0 : Nat), (0 : Nat)) = (l, c)
    · cases e
      exact (view_some t (by rw [hs0, if_pos rfl])).trans hinv.root_eq
    · exact view_none t (by rw [hs0, if_neg e])
  obtain ⟨⟨sub1, keys⟩, hfill, -, hcov⟩ := fillNodes_covers t vs.toArray start t.depth 0 0 start
    (start + vs.length) (sub0, [(0, 0)]) 0 (by omega) (Nat.zero_mul _).symm
    ⟨by omega, fun x _ => by rw [hsz]; omega, by rw [hsz]; omega⟩
  obtain ⟨⟨hP1, hlog1⟩, hmono⟩ := fillNodes_paired t vs.toArray start hroot0 hP0 hlog0 hfill
  have hK1 : ∀ l c, (l = t.depth → start ≤ c → start + vs.length ≤ c) → view t sub1 l c = t.getElem l c :=
    fun l c hout => fillNodes_kept t vs.toArray start (by omega) hroot0 (hsz ▸ hout) (hK0 l c) hfill
  obtain ⟨rootVal, sub2, ks2, hbatch, hroot, hiff, hloc⟩ := batchRecalc_local H t t.depth 0 0
    sub1 [] (by omega) hP1 (hmono _ hroot0)
  refine ⟨sub1, keys, rootVal, sub2, ks2, hfill, hbatch, fun k hk => hlog1 k ((hiff k).mp hk),
    fun l c hl hc => ?_, hroot, fun j hj => ?_⟩
  · by_cases hx : MapLike.get? sub1 (l + 1, 2 * c) = none
    · -- not recomputed: the node keeps the value the tree reads, and neither child is stored
      have hr : MapLike.get? sub1 (l + 1, 2 * c + 1) = none := (Decidable.not_iff_not.mp (hP1.pair l c)).mp hx
      have hnone := fun k => (Decidable.not_iff_not.mp (hiff k)).mpr
      rw [view_congr t (batchRecalc_untouched H hbatch (.inr (.inr hx))),
        hK1 l c fun h => absurd h (Nat.ne_of_lt hl), view_none t (hnone _ hx), view_none t (hnone _ hr)]
      exact hinv.cons l c hl hc
    · exact hloc l c ⟨Nat.zero_le _, by simp [Nat.div_eq_of_lt hc]⟩ hl hx
  rw [view_congr t (batchRecalc_untouched H hbatch (.inr (.inl (Nat.le_of_eq (Nat.zero_add _)))))]
  by_cases hr : start ≤ j ∧ j < start + vs.length
  · unfold view Ideal.overlay
    rw [hcov j (Nat.zero_le _) (by omega) hr.1 (by rw [hsz]; exact hr.2), if_pos hr.1, List.getElem?_toArray]
  · rw [Ideal.overlay_out (by omega)]
    exact hK1 t.depth j fun _ h => by omega

/-! ## the batch write and `treeSetRange` -/

variable [LawfulMapLike D PmKey (PmVal α)]

omit [LawfulMapLike S (Nat × Nat) α] in
theorem getElem_tick_batch (t : Pm α D) (sub : S) (keys : List (Nat × Nat))
    (hdom : ∀ k, MapLike.get? sub k ≠ none → k ∈ keys) (l c : Nat) :
    (t.tick ((keys.filterMap fun k => (MapLike.get? sub k).map fun v => (PmKey.node k.1 k.2, PmVal.fr v)).foldl
      (fun m kv => MapLike.insert m kv.1 kv.2) t.db.kv)).getElem l c = view t sub l c := by
  unfold getElem view tick
  simp only
  rw [foldl_insert_node (fun k => MapLike.get? sub k) l c keys]
  cases hc : MapLike.get? sub (l, c) with
  | none => simp; rfl
  | some v => simp [hdom (l, c) (by rw [hc]; exact Option.some_ne_none _)]

theorem treeSetRange_spec (S : Type) [MapLike S (Nat × Nat) α] [LawfulMapLike S (Nat × Nat) α]
    (H : α → α → α) (t : Pm α D) (hinv : Inv H t) (start : Nat) (vs : List α) (hne : vs ≠ [])
    (hfit : start + vs.length ≤ 2 ^ t.depth) :
    ∃ t', treeSetRange S H start vs t = (t', .ok ()) ∧ Wrote H t t' start vs := by
  obtain ⟨sub1, keys, rootVal, sub2, ks2, hfill, hbatch, hlog, htree, hroot, hleaves⟩ :=
    fill_recalc (S := S) H t hinv start vs hne
  let kvs : List (PmKey × PmVal α) := keys.filterMap (fun k =>
        (MapLike.get? sub2 k).map (fun v => (PmKey.node k.1 k.2, PmVal.fr v)))
  let t1 := t.tick (kvs.foldl (fun m kv => MapLike.insert m kv.1 kv.2) t.db.kv)
  have hg1 : ∀ l c, t1.getElem l c = view t sub2 l c := getElem_tick_batch t sub2 keys hlog
  have hfr1 : Frame t t1 :=
    ⟨rfl, rfl, rfl, rfl, rfl, foldl_insert_other (fun k => MapLike.get? sub2 k) PmKey.depthKey (by simp) keys t.db.kv⟩
  obtain ⟨t2, h2, hfr2, hg2, hn2, hsn2⟩ : ∃ t2 : Pm α D, (fun t : Pm α D =>
        if start + vs.length > t.next then
          ((modify fun t => { t with next := start + vs.length }) >>=
              fun _ => put PmKey.nextKey (PmVal.num (start + vs.length))) t
        else (t, Outcome.ok ())) t1 = (t2, .ok ()) ∧ Frame t t2 ∧ (∀ l c, t2.getElem l c = t1.getElem l c) ∧
      t2.next = max t.next (start + vs.length) ∧
      MapLike.get? t2.db.kv PmKey.nextKey = some (PmVal.num t2.next) := by
    by_cases hn : start + vs.length > t.next
    · refine ⟨(t1.setNext (start + vs.length)).putKv PmKey.nextKey (PmVal.num (start + vs.length)), ?_,
        (hfr1.setNext _).trans (Frame.putKv _ (by simp)), fun l c => getElem_putKv_other _ (by simp) l c,
        (Nat.max_eq_right (Nat.le_of_lt hn)).symm, by rw [get?_putKv, if_pos rfl]; rfl⟩
      show (if start + vs.length > t.next then _ else _) = _
      rw [if_pos hn]
      exact put_ok _ hinv.nofail
    · refine ⟨t1, ?_, hfr1, fun _ _ => rfl, (Nat.max_eq_left (Nat.le_of_not_gt hn)).symm, ?_⟩
      · show (if start + vs.length > t.next then _ else _) = _
        rw [if_neg hn]
      · exact (foldl_insert_other (fun k => MapLike.get? sub2 k) PmKey.nextKey (by simp) keys t.db.kv).trans
          hinv.stored_next
  have hread : ∀ l c, (t2.setRoot rootVal).getElem l c = view t sub2 l c := fun l c => (hg2 l c).trans (hg1 l c)
  refine ⟨t2.setRoot rootVal, ?_, ?_, hfr2.depth, hfr2.flags, hn2, fun j hj => (hread _ j).trans (hleaves j hj)⟩
  · unfold treeSetRange
    simp only [show ¬ (start + vs.length > t.cap) by unfold cap; omega, if_false, hfill, hbatch]
    rw [PmM.bind_ok (putBatch_ok t kvs hinv.nofail), PmM.bind_ok h2]
    rfl
  · refine hinv.of_frame (hfr2.setRoot rootVal) (htree.congr hread)
      (hroot.symm.trans (hread 0 0).symm) ?_ hsn2
    have := hinv.next_le
    show t2.next ≤ _
    omega

end Pm
end Zk.Tree
