import ZkProofs.Lemmas.OpsDefs
/-!
# Proofs of the statements of `OpsDefs.lean` (C19)

The signed comparisons are read off the generated table row by row (`signedCmp_rows`). The limb-level
right shift is some whole-word moves followed by a carry loop from the top limb down, whose invariant
(`shrBits_fold`) is that the limbs written make up the quotient of the limbs read and the carry is
the remainder. Against circom, `evalFr_ok` gives value (`frSem`) and bound operator by operator;
`evalFr_sem` and `evalFr_no_panic` are two readings of that one lemma.
-/
namespace Zk.Graph

open Zk.Generated

/-! ## constants -/

theorem P_val : P = 21888242871839275222246405745257275088548364400416034343698204186575808495617 := rfl

theorem halfP_val : P / 2 = 10944121435919637611123202872628637544274182200208017171849102093287904247808 := by
  decide +kernel

theorem P_lt_254 : P < 2 ^ 254 := by decide +kernel
theorem two254_lt : 2 ^ 254 < 2 * P := by decide +kernel

theorem consts_ok : ConstsStmt := by
  refine ⟨rfl, ?_⟩
  rw [halfP_val]; rfl

/-! ## signed comparisons -/

theorem signedCmp_rows (r00 r10 r01 r11 : CmpRow) (a b : Nat) :
    signedCmp (some [((false, false), r00), ((true, false), r10), ((false, true), r01), ((true, true), r11)]) a b
      = some (applyRow (if P / 2 < a then (if P / 2 < b then r11 else r10)
                        else (if P / 2 < b then r01 else r00)) a b) := by
  unfold signedCmp halfM
  simp only [← halfP_val]
  by_cases h1 : P / 2 < a <;> by_cases h2 : P / 2 < b <;>
    simp only [h1, h2, decide_true, decide_false, if_true, if_false] <;> rfl

theorem signedCmp_ok : SignedCmpStmt := by
  intro a b ha hb
  unfold uLt uGt uLte uGte
  simp only [signedCmp_rows]
  unfold Circom.sval
  by_cases h1 : P / 2 < a <;> by_cases h2 : P / 2 < b <;>
    simp [h1, h2, applyRow, b2n] <;> omega

/-! ## limbs -/

theorem U64_val : U64 = 2 ^ 64 := rfl

theorem ofLimbs_toLimbs (a : Nat) (ha : a < 2 ^ 256) : ofLimbs (toLimbs a) = a := by
  simp only [toLimbs, ofLimbs, U64_val]
  omega

theorem toLimbs_lt (a : Nat) : ∀ x ∈ toLimbs a, x < 2 ^ 64 := by
  intro x hx
  simp only [toLimbs, List.mem_cons, List.not_mem_nil, or_false] at hx
  rcases hx with rfl | rfl | rfl | rfl <;> exact Nat.mod_lt _ (by decide)

theorem toLimbs_zipWith (f : Nat → Nat → Nat)
    (hmod : ∀ a b n, f a b % 2 ^ n = f (a % 2 ^ n) (b % 2 ^ n))
    (hdiv : ∀ a b n, f a b / 2 ^ n = f (a / 2 ^ n) (b / 2 ^ n)) (a b : Nat) :
    List.zipWith f (toLimbs a) (toLimbs b) = toLimbs (f a b) := by
  simp only [toLimbs, U64_val, ← Nat.pow_mul, List.zipWith_cons_cons, List.zipWith_nil_right, hmod, hdiv]

theorem limbwise_ok : LimbwiseStmt := by
  intro a b ha hb
  rw [toLimbs_zipWith Nat.land (fun _ _ _ => Nat.and_mod_two_pow) (fun _ _ _ => Nat.and_div_two_pow),
    toLimbs_zipWith Nat.lor (fun _ _ _ => Nat.or_mod_two_pow) (fun _ _ _ => Nat.or_div_two_pow),
    toLimbs_zipWith Nat.xor (fun _ _ _ => Nat.xor_mod_two_pow) (fun _ _ _ => Nat.xor_div_two_pow)]
  exact ⟨ofLimbs_toLimbs _ (Nat.and_lt_two_pow _ hb),
    ofLimbs_toLimbs _ (Nat.or_lt_two_pow ha hb),
    ofLimbs_toLimbs _ (Nat.xor_lt_two_pow ha hb)⟩

/-! ## the limb-level right shift -/

theorem limb_step (n x r : Nat) (hn : n < 64) (hx : x < 2 ^ 64) (hr : r < 2 ^ n) :
    (x / 2 ^ n) ||| (r * 2 ^ (64 - n) % U64) = x / 2 ^ n + r * 2 ^ (64 - n) := by
  have hts : 2 ^ n * 2 ^ (64 - n) = 2 ^ 64 := by rw [← Nat.pow_add]; congr 1; omega
  have ht : 0 < 2 ^ n := Nat.two_pow_pos n
  have hlt : r * 2 ^ (64 - n) < 2 ^ 64 := by
    rw [← hts]; exact Nat.mul_lt_mul_of_pos_right hr (Nat.two_pow_pos _)
  have hq : x / 2 ^ n < 2 ^ (64 - n) := by
    rw [Nat.div_lt_iff_lt_mul ht, Nat.mul_comm, hts]; exact hx
  rw [U64_val, Nat.mod_eq_of_lt hlt, Nat.or_comm, Nat.mul_comm, ← Nat.two_pow_add_eq_or_of_lt hq, Nat.add_comm]

/-- `hi`: the number formed by the limbs already read, most significant first; written limbs =
    `hi / 2^n`, carry = `hi % 2^n` -/
theorem shrBits_fold (n : Nat) (hn : n < 64) : ∀ (lo acc : List Nat) (carry hi : Nat),
    (∀ x ∈ lo, x < 2 ^ 64) → ofLimbs acc.reverse = hi / 2 ^ n → carry = hi % 2 ^ n →
    ofLimbs (lo.foldl (fun (acc : List Nat × Nat) limb =>
        (acc.1 ++ [(limb / 2 ^ n) ||| (acc.2 * 2 ^ (64 - n) % U64)], limb &&& (2 ^ n - 1))) (acc, carry)).1.reverse
      = lo.foldl (fun hi limb => limb + U64 * hi) hi / 2 ^ n := by
  intro lo
  induction lo with
  | nil => exact fun _ _ _ _ hacc _ => hacc
  | cons l lo ih =>
    intro acc carry hi hlo hacc hc
    have ht : 0 < 2 ^ n := Nat.two_pow_pos n
    have hts : U64 = 2 ^ n * 2 ^ (64 - n) := by rw [U64_val, ← Nat.pow_add]; congr 1; omega
    refine ih _ _ (l + U64 * hi) (fun x hx => hlo x (List.mem_cons_of_mem _ hx)) ?_ ?_
    · rw [List.reverse_append, List.reverse_singleton, List.singleton_append, ofLimbs, hacc,
        limb_step n l carry hn (hlo l List.mem_cons_self) (hc ▸ Nat.mod_lt _ ht), hc]
      -- `U64 * hi = 2 ^ n * (2 ^ (64 - n) * hi)` leaves the quotient of `l`, and `hi` splits at bit `n`
      rw [hts, Nat.mul_assoc (2 ^ n) _ hi, Nat.add_mul_div_left _ _ ht, Nat.add_assoc]
      congr 1
      rw [Nat.mul_comm (hi % 2 ^ n), Nat.mul_comm (2 ^ n), Nat.mul_assoc, ← Nat.mul_add, Nat.add_comm,
        Nat.div_add_mod]
    · rw [Nat.and_two_pow_sub_one_eq_mod, hts, Nat.mul_assoc, Nat.add_mul_mod_self_left]

theorem ofLimbs_eq_foldl (c : List Nat) : ofLimbs c = c.reverse.foldl (fun h limb => limb + U64 * h) 0 := by
  rw [List.foldl_reverse]
  induction c with
  | nil => rfl
  | cons l r ih => rw [ofLimbs, ih]; rfl

theorem shrBits_spec (n : Nat) (c : List Nat) (hn : n < 64) (hc : ∀ x ∈ c, x < 2 ^ 64) :
    ofLimbs (shrBits n c.reverse).reverse = ofLimbs c / 2 ^ n := by
  rw [ofLimbs_eq_foldl c]
  exact shrBits_fold n hn c.reverse [] 0 0 (fun x hx => hc x (List.mem_reverse.mp hx))
    (Nat.zero_div _).symm (Nat.zero_mod _).symm

theorem ofLimbs_append_zero : ∀ c : List Nat, ofLimbs (c ++ [0]) = ofLimbs c
  | [] => rfl
  | l :: r => by rw [List.cons_append, ofLimbs, ofLimbs, ofLimbs_append_zero r]

theorem ofLimbs_move (c : List Nat) (hc : ∀ x ∈ c, x < 2 ^ 64) :
    ofLimbs (c.drop 1 ++ [0]) = ofLimbs c / 2 ^ 64 ∧ ∀ x ∈ c.drop 1 ++ [0], x < 2 ^ 64 := by
  refine ⟨?_, fun x hx => ?_⟩
  · rw [ofLimbs_append_zero]
    cases c with
    | nil => rfl
    | cons l r =>
      rw [List.drop_one, List.tail_cons, ofLimbs, U64_val, Nat.add_mul_div_left _ _ (by decide),
        Nat.div_eq_of_lt (hc l List.mem_cons_self), Nat.zero_add]
  · rcases List.mem_append.mp hx with h | h
    · exact hc x (List.mem_of_mem_drop h)
    · rw [List.mem_singleton.mp h]; decide

theorem shrWords_spec : ∀ (f n : Nat) (c : List Nat), n < 64 * f → (∀ x ∈ c, x < 2 ^ 64) →
    ∃ m c', shrWords f n c = (m, c') ∧ m < 64 ∧ (∀ x ∈ c', x < 2 ^ 64) ∧ ofLimbs c' / 2 ^ m = ofLimbs c / 2 ^ n := by
  intro f
  induction f with
  | zero => exact fun _ _ hn => absurd hn (Nat.not_lt_zero _)
  | succ f ih =>
    intro n c hn hc
    rw [shrWords]
    split
    · obtain ⟨hv, hc'⟩ := ofLimbs_move c hc
      obtain ⟨m, c', e, hm, hc'', hq⟩ := ih (n - 64) _ (by omega) hc'
      refine ⟨m, c', e, hm, hc'', ?_⟩
      rw [hq, hv, Nat.div_div_eq_div_mul, ← Nat.pow_add]
      congr 2
      omega
    · exact ⟨n, c, rfl, by omega, hc, rfl⟩

theorem shr_limbs : ShrLimbsStmt := by
  intro a n ha hn0 hn
  obtain ⟨m, c, e, hm, hc, hq⟩ := shrWords_spec 4 n (toLimbs a) (by omega) (toLimbs_lt a)
  rw [ofLimbs_toLimbs a ha] at hq
  unfold shrFr
  rw [if_neg (by omega), if_neg (by omega)]
  simp only [Nat.mod_eq_of_lt (show n < 256 by omega), e]
  split
  · next h0 => rw [← hq, h0, Nat.pow_zero, Nat.div_one]
  · next h0 => rw [← hq, shrBits_spec m c hm hc]

/-! ## Montgomery evaluator against circom -/

theorem condsub_mod (r : Nat) (h : r < 2 * P) : (if r ≥ P then r - P else r) = r % P := by
  split
  · rw [Nat.mod_eq_sub_mod (by omega), Nat.mod_eq_of_lt (by omega)]
  · rw [Nat.mod_eq_of_lt (by omega)]

/-- what `eval_fr` computes on canonical operands: circom's value, except that a shift count is
    never read as negative -/
def frSem (op : Op) (a b : Nat) : Nat :=
  match op with
  | .Shl => if b ≥ 254 then 0 else ((a * 2 ^ b) &&& Circom.mask) % P
  | .Shr => if b ≥ 254 then 0 else a / 2 ^ b
  | op => Circom.sem op a b

theorem shlFr_ok (a b : Nat) (ha : a < P) : shlFr a b = .ok (frSem .Shl a b) := by
  have hP := P_lt_254
  have h2 := two254_lt
  simp only [frSem]
  unfold shlFr Circom.mask
  rw [Nat.and_two_pow_sub_one_eq_mod]
  by_cases h0 : b = 0
  · subst h0
    rw [if_pos rfl, if_neg (by omega), Nat.pow_zero, Nat.mul_one, Nat.mod_eq_of_lt (show a < 2 ^ 254 by omega),
      Nat.mod_eq_of_lt ha]
  · rw [if_neg h0]
    by_cases h1 : b ≥ 254
    · rw [if_pos h1, if_pos h1]
    · rw [if_neg h1, if_neg h1]
      have hn : b % U64 % 2 ^ 32 = b := by rw [U64_val]; omega
      simp only [hn, U256]
      rw [Nat.mod_mod_of_dvd _ (Nat.pow_dvd_pow 2 (by omega : 254 ≤ 256))]
      have hr : a * 2 ^ b % 2 ^ 254 < 2 * P := by
        have := Nat.mod_lt (a * 2 ^ b) (Nat.two_pow_pos 254); omega
      rw [condsub_mod _ hr, if_neg (Nat.not_le_of_lt (Nat.mod_lt _ P_pos))]

theorem shrFr_ok (a b : Nat) (ha : a < P) : shrFr a b = .ok (frSem .Shr a b) := by
  have hP := P_lt_254
  simp only [frSem]
  by_cases h0 : b = 0
  · subst h0; simp [shrFr]
  by_cases h1 : b ≥ 254
  · unfold shrFr; rw [if_neg h0, if_pos h1, if_pos h1]
  · rw [if_neg h1]
    exact shr_limbs a b (by omega) (by omega) (by omega)

theorem bitFr_ok (f : Nat → Nat → Nat) (strict : Bool) (a b : Nat) (h : f a b < 2 ^ 254)
    (hs : strict = true → f a b < P) : bitFr f strict a b = .ok (f a b % P) := by
  have h2 := two254_lt
  unfold bitFr
  cases strict
  · simp only [Bool.false_eq_true, if_false]
    rw [condsub_mod _ (by omega), if_neg (Nat.not_le_of_lt (Nat.mod_lt _ P_pos))]
  · have := hs rfl
    simp only [if_true]
    rw [if_neg (show ¬ f a b > P by omega), if_neg (show ¬ f a b ≥ P by omega), Nat.mod_eq_of_lt this]

theorem bitFr_canon (a b : Nat) (ha : a < P) (hb : b < P) :
    bitFr Nat.lor false a b = .ok ((a ||| b) % P) ∧ bitFr Nat.land true a b = .ok ((a &&& b) % P) ∧
    bitFr Nat.xor false a b = .ok ((a ^^^ b) % P) := by
  have hP := P_lt_254
  have hle : a &&& b ≤ a := Nat.and_le_left
  exact ⟨bitFr_ok Nat.lor false a b (Nat.or_lt_two_pow (by omega) (by omega)) (by simp),
    bitFr_ok Nat.land true a b (show a &&& b < 2 ^ 254 by omega) (fun _ => show a &&& b < P by omega),
    bitFr_ok Nat.xor false a b (Nat.xor_lt_two_pow (by omega) (by omega)) (by simp)⟩

theorem cmpOut_some (v : Nat) : cmpOut (some v) = .ok v := rfl

theorem b2n_lt (b : Bool) : b2n b < P := by
  cases b <;> decide

theorem frSem_covered (op : Op) (a b : Nat) (h : FrCovered op b) : frSem op a b = Circom.sem op a b := by
  cases op
  case Shl => simp only [frSem, Circom.sem, Circom.shl, if_pos (h.2 (Or.inl rfl))]
  case Shr => simp only [frSem, Circom.sem, Circom.shr, if_pos (h.2 (Or.inr rfl))]
  all_goals rfl

theorem evalFr_ok (op : Op) (a b : Nat) (ha : a < P) (hb : b < P) (hop : op ≠ .Pow) :
    evalFr op a b = .ok (frSem op a b) ∧ frSem op a b < P := by
  have hpos := P_pos
  have hcmp := signedCmp_ok a b ha hb
  have hbit := bitFr_canon a b ha hb
  have hmod : ∀ x, x % P < P := fun x => Nat.mod_lt x hpos
  cases op
  case Pow => exact absurd rfl hop
  case Mul | Add => exact ⟨rfl, hmod _⟩
  case Sub =>
    simp only [evalFr, frSem, Circom.sem, fsub, Nat.mod_eq_of_lt hb]
    exact ⟨trivial, hmod _⟩
  case Div =>
    simp only [evalFr, frSem, Circom.sem, fdiv, fmul]
    split
    · exact ⟨rfl, hpos⟩
    · exact ⟨rfl, hmod _⟩
  case Idiv =>
    simp only [evalFr, frSem, Circom.sem]
    split
    · exact ⟨rfl, hpos⟩
    · exact ⟨rfl, Nat.lt_of_le_of_lt (Nat.div_le_self _ _) ha⟩
  case Mod =>
    simp only [evalFr, frSem, Circom.sem]
    split
    · exact ⟨rfl, hpos⟩
    · exact ⟨rfl, Nat.lt_of_le_of_lt (Nat.mod_le _ _) ha⟩
  case Eq | Neq | Land | Lor => exact ⟨rfl, b2n_lt _⟩
  case Lt => exact ⟨congrArg cmpOut hcmp.1, b2n_lt _⟩
  case Gt => exact ⟨congrArg cmpOut hcmp.2.1, b2n_lt _⟩
  case Leq => exact ⟨congrArg cmpOut hcmp.2.2.1, b2n_lt _⟩
  case Geq => exact ⟨congrArg cmpOut hcmp.2.2.2, b2n_lt _⟩
  case Shl =>
    refine ⟨shlFr_ok a b ha, ?_⟩
    simp only [frSem]
    split
    · exact hpos
    · exact hmod _
  case Shr =>
    refine ⟨shrFr_ok a b ha, ?_⟩
    simp only [frSem]
    split
    · exact hpos
    · exact Nat.lt_of_le_of_lt (Nat.div_le_self _ _) ha
  case Bor => exact ⟨hbit.1, hmod _⟩
  case Band => exact ⟨hbit.2.1, hmod _⟩
  case Bxor => exact ⟨hbit.2.2, hmod _⟩

theorem evalFr_sem : EvalFrSemStmt := by
  intro op a b ha hb hc
  rw [← frSem_covered op a b hc]
  exact evalFr_ok op a b ha hb hc.1

theorem evalFr_no_panic : EvalFrNoPanicStmt :=
  fun op a b ha hb hop => ⟨_, evalFr_ok op a b ha hb hop⟩

theorem evalFrUno_sem : EvalFrUnoStmt := by
  intro a ha
  have hpos := P_pos
  simp only [evalFrUno, Circom.semUno]
  by_cases h : a = 0
  · subst h; simp [hpos]
  · rw [if_neg h, Nat.mod_eq_of_lt (by omega)]
    exact ⟨rfl, by omega⟩

theorem evalFrTres_sem : EvalFrTresStmt := by
  intro a b c ha hb hc
  simp only [evalFrTres, Circom.semTres]
  refine ⟨trivial, ?_⟩
  split <;> assumption

/-! ## the two evaluators -/

theorem eval_agree : EvalAgreeStmt := by
  intro op a b ha hb hc
  have hP := P_lt_254
  have hbit := bitFr_canon a b ha hb
  obtain ⟨c1, c2, c3, c4, c5, c6⟩ := hc
  have hsub : (P + 2 ^ 256 - b) % 2 ^ 256 = P - b := by omega
  cases op <;> simp only [evalU, consts_ok.1, evalFr]
  case Pow => exact absurd rfl c1
  case Shl => exact absurd rfl c2
  case Div =>
    simp only [fdiv, fmul, finv, Nat.mod_eq_of_lt hb]
    split <;> rfl
  case Sub => simp only [fsub, Nat.mod_eq_of_lt hb, U256, hsub]
  case Idiv => rw [if_neg (c6 (Or.inl rfl)), if_neg (c6 (Or.inl rfl))]
  case Mod => rw [if_neg (c6 (Or.inr rfl)), if_neg (c6 (Or.inr rfl))]
  case Shr =>
    have h := c3 rfl
    have hm : b % U64 = b := by rw [U64_val]; omega
    rw [shrFr_ok a b ha, frSem, hm, if_neg (by omega), if_neg (by omega)]
  case Bor => rw [hbit.1, Nat.mod_eq_of_lt (c4 rfl)]
  case Band => rw [hbit.2.1, Nat.mod_eq_of_lt (Nat.lt_of_le_of_lt Nat.and_le_left ha)]
  case Bxor => rw [hbit.2.2, Nat.mod_eq_of_lt (c5 rfl)]
  all_goals rfl

theorem evalUno_agree : EvalAgreeUnoStmt := by
  intro a ha
  have hP := P_lt_254
  show (if a = 0 then Outcome.ok 0 else .ok ((P + U256 - a) % U256)) = (if a = 0 then .ok 0 else .ok (P - a))
  by_cases h : a = 0
  · rw [if_pos h, if_pos h]
  · rw [if_neg h, if_neg h, U256]
    have : (P + 2 ^ 256 - a) % 2 ^ 256 = P - a := by omega
    rw [this]

end Zk.Graph
