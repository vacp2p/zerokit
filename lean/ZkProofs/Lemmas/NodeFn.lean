import ZkProofs.Lemmas.TreeDefs
/-!
# A tree read through its node function

Every backend stores its nodes differently (flat array, sparse map, key-value store) but is read
through one lookup `g : level → index → α`. What the refinement relations say about the stored
nodes is `HashTree` (inner nodes hash their children) plus agreement with the ideal leaves; that
determines `g` on the whole tree, so the observables are derived once (`Sim.obs`), for the
reference observables `NodeFn.*` that each backend's own unfold to.
-/
namespace Zk.Tree

variable {α : Type}

/-! ## powers of two and `^^^ 1` -/

theorem two_pow_pred {l : Nat} (h : l ≠ 0) : 2 ^ l = 2 * 2 ^ (l - 1) := by
  obtain ⟨k, rfl⟩ := Nat.exists_eq_succ_of_ne_zero h
  exact Nat.pow_succ'

/-- the block of leaves below node `i`, `k + 1` levels up, in terms of the blocks of its children -/
theorem block_succ (k i : Nat) :
    2 * i * 2 ^ k = i * 2 ^ (k + 1) ∧ (2 * i + 1) * 2 ^ k = i * 2 ^ (k + 1) + 2 ^ k ∧
    (2 * i + 1 + 1) * 2 ^ k = i * 2 ^ (k + 1) + 2 ^ k + 2 ^ k ∧
    (i + 1) * 2 ^ (k + 1) = i * 2 ^ (k + 1) + 2 ^ k + 2 ^ k := by
  have e1 : 2 * i * 2 ^ k = i * 2 ^ (k + 1) := by rw [Nat.pow_succ', Nat.mul_comm 2 i, Nat.mul_assoc]
  have e2 : (2 * i + 1) * 2 ^ k = i * 2 ^ (k + 1) + 2 ^ k := by rw [Nat.add_mul, e1, Nat.one_mul]
  refine ⟨e1, e2, by rw [Nat.add_mul, e2, Nat.one_mul], ?_⟩
  rw [Nat.add_mul, Nat.one_mul]
  omega

theorem div_pow_lt {i d l : Nat} (hi : i < 2 ^ d) (hl : l ≤ d) : i / 2 ^ (d - l) < 2 ^ l := by
  rw [Nat.div_lt_iff_lt_mul (Nat.two_pow_pos _), ← Nat.pow_add, Nat.add_sub_cancel' hl]
  exact hi

theorem xor_one_div (i : Nat) : (i ^^^ 1) / 2 = i / 2 := by
  rw [Nat.xor_div_two]
  exact Nat.xor_zero _

theorem xor_one_eq (i : Nat) : i ^^^ 1 = if i % 2 = 0 then i + 1 else i - 1 := by
  have hd := xor_one_div i
  have hm := @Nat.xor_mod_two_eq_one i 1
  split <;> omega

theorem xor_one_bit (i : Nat) : 1 - (i ^^^ 1) % 2 = i % 2 := by rw [xor_one_eq]; split <;> omega

theorem xor_one_lt {i d : Nat} (h : i < 2 ^ (d + 1)) : i ^^^ 1 < 2 ^ (d + 1) :=
  Nat.xor_lt_two_pow h (Nat.one_lt_two_pow (Nat.succ_ne_zero d))

/-! ## hash trees -/

def HashTree (H : α → α → α) (d : Nat) (g : Nat → Nat → α) : Prop :=
  ∀ l i, l < d → i < 2 ^ l → g l i = H (g (l + 1) (2 * i)) (g (l + 1) (2 * i + 1))

theorem HashTree.eq_nodeAux {H : α → α → α} {d : Nat} {g : Nat → Nat → α} (hg : HashTree H d g)
    {lf : Nat → α} (hlf : ∀ i, i < 2 ^ d → g d i = lf i) :
    ∀ (k l i : Nat), l + k = d → i < 2 ^ l → g l i = Ideal.nodeAux H lf k i
  | 0, l, i, hl, hi => by
    obtain rfl : l = d := hl
    exact hlf i hi
  | k+1, l, i, hl, hi => by
    rw [hg l i (by omega) hi, hg.eq_nodeAux hlf k (l + 1) (2 * i) (by omega) (by omega),
      hg.eq_nodeAux hlf k (l + 1) (2 * i + 1) (by omega) (by omega)]
    rfl

theorem HashTree.congr {H : α → α → α} {d : Nat} {g g' : Nat → Nat → α} (hg' : HashTree H d g')
    (h : ∀ l i, g l i = g' l i) : HashTree H d g := by
  intro l i hl hi
  rw [h, h, h]
  exact hg' l i hl hi

theorem Ideal.node_depth (H : α → α → α) (dflt : α) (s : Ideal α) (i : Nat) :
    s.node H dflt s.depth i = s.leaf dflt i := by
  unfold Ideal.node
  rw [Nat.sub_self]
  rfl

/-! ## the reference observables of a node function -/

namespace NodeFn

def get (d : Nat) (g : Nat → Nat → α) (i : Nat) : Outcome α :=
  if i ≥ 2 ^ d then .err else .ok (g d i)

def getSubtreeRoot (d : Nat) (g : Nat → Nat → α) (n index : Nat) : Outcome α :=
  if n > d then .err
  else if index ≥ 2 ^ d then .err
  else if n = 0 then .ok (g 0 0)
  else if n = d then get d g index
  else .ok (g n (index / 2 ^ (d - n)))

def emptyIdx (nx : Nat) (fl : Array Nat) : List Nat :=
  (List.range (min nx fl.size)).filter (fun i => fl[i]! == 0)

/-- the loop of `proof` in optimal_merkle_tree.rs (`Optimal.proofAux`; `Pm.proofAux` is the same) over any
    node function -/
def path (g : Nat → Nat → α) : Nat → Nat → List (α × Nat)
  | 0, _ => []
  | d+1, i => (g (d + 1) (i ^^^ 1), 1 - (i ^^^ 1) % 2) :: path g d ((i ^^^ 1) / 2)

def proof (d : Nat) (g : Nat → Nat → α) (i : Nat) : Outcome (List (α × Nat)) :=
  if i ≥ 2 ^ d then .err else .ok (path g d i)

theorem getSubtreeRoot_eq (d : Nat) (g : Nat → Nat → α) (n index : Nat) :
    getSubtreeRoot d g n index =
      if n > d ∨ index ≥ 2 ^ d then .err else .ok (g n (index / 2 ^ (d - n))) := by
  unfold getSubtreeRoot get
  by_cases hc : n > d ∨ index ≥ 2 ^ d
  · rw [if_pos hc]
    rcases hc with hc | hc
    · rw [if_pos hc]
    · rw [if_pos hc, ite_self]
  have hi : ¬index ≥ 2 ^ d := fun h => hc (.inr h)
  rw [if_neg hc, if_neg fun h => hc (.inl h), if_neg hi]
  by_cases h0 : n = 0
  · subst h0
    rw [if_pos rfl, Nat.sub_zero, Nat.div_eq_of_lt (by omega)]
  rw [if_neg h0]
  by_cases hd : n = d
  · subst hd
    rw [if_pos rfl, if_neg hi, Nat.sub_self, Nat.pow_zero, Nat.div_one]
  rw [if_neg hd]

theorem path_eq_proofAux {H : α → α → α} {dflt : α} {s : Ideal α} {g : Nat → Nat → α}
    (hg : ∀ {l i}, l ≤ s.depth → i < 2 ^ l → g l i = s.node H dflt l i) :
    ∀ (d i : Nat), d ≤ s.depth → i < 2 ^ d → path g d i = Ideal.proofAux H dflt s d d i
  | 0, _, _, _ => rfl
  | d+1, i, hd, hi => by
    simp only [path, Ideal.proofAux, Nat.add_sub_cancel]
    rw [hg hd (xor_one_lt hi), xor_one_bit, xor_one_div,
      path_eq_proofAux hg d (i / 2) (by omega) (by omega)]

end NodeFn

/-! ## the simulation shared by the three refinement relations -/

structure Sim (H : α → α → α) (dflt : α) (d nx : Nat) (fl : Array Nat) (g : Nat → Nat → α)
    (s : Ideal α) : Prop where
  depth : d = s.depth
  next : nx = s.next
  next_le : nx ≤ 2 ^ d
  fsize : fl.size = 2 ^ d
  tree : HashTree H d g
  leaves : ∀ i, i < 2 ^ d → g d i = s.leaf dflt i
  flags : ∀ i, i < 2 ^ d → (fl[i]! = 0 ↔ (s.live.lookup i).getD false = false)

namespace Sim

variable {H : α → α → α} {dflt : α} {d nx : Nat} {fl : Array Nat} {g : Nat → Nat → α} {s : Ideal α}

theorem node_eq (h : Sim H dflt d nx fl g s) {l i : Nat} (hl : l ≤ d) (hi : i < 2 ^ l) :
    g l i = s.node H dflt l i := by
  obtain ⟨rfl, _, _, _, ht, hlf, _⟩ := h
  exact ht.eq_nodeAux hlf (s.depth - l) l i (by omega) hi

theorem lt_cap (h : Sim H dflt d nx fl g s) {i : Nat} (hi : i < s.next) : i < s.cap := by
  have := h.next_le
  rw [h.depth, h.next] at this
  exact Nat.lt_of_lt_of_le hi this

/-- the conjuncts of `Full.ObsStmt` / `Optimal.ObsStmt` / `Pm.ObsStmt`, for the reference observables -/
theorem obs (h : Sim H dflt d nx fl g s) :
    g 0 0 = s.root H dflt ∧
    nx = s.next ∧
    (∀ i, NodeFn.get d g i = if i < 2 ^ s.depth then .ok (s.leaf dflt i) else .err) ∧
    (∀ l i, NodeFn.getSubtreeRoot d g l i =
      if l > s.depth ∨ i ≥ 2 ^ s.depth then .err else .ok (s.node H dflt l (i / 2 ^ (s.depth - l)))) ∧
    NodeFn.emptyIdx nx fl = s.emptyIdx ∧
    (∀ i, NodeFn.proof d g i = if i < 2 ^ s.depth then .ok (s.proof H dflt i) else .err) := by
  have hnode : ∀ {l i : Nat}, l ≤ d → i < 2 ^ l → g l i = s.node H dflt l i := h.node_eq
  obtain ⟨rfl, rfl, hle, hfs, -, hlf, hfl⟩ := h
  have hget : ∀ i, NodeFn.get s.depth g i = if i < 2 ^ s.depth then .ok (s.leaf dflt i) else .err := by
    intro i
    unfold NodeFn.get
    by_cases hi : i < 2 ^ s.depth
    · rw [if_neg (by omega), if_pos hi, hlf i hi]
    · rw [if_pos (by omega), if_neg hi]
  refine ⟨hnode (Nat.zero_le _) Nat.one_pos, rfl, hget, ?_, ?_, ?_⟩
  · intro l i
    rw [NodeFn.getSubtreeRoot_eq]
    by_cases hc : l > s.depth ∨ i ≥ 2 ^ s.depth
    · rw [if_pos hc, if_pos hc]
    · rw [if_neg hc, if_neg hc, hnode (by omega) (div_pow_lt (by omega) (by omega))]
  · unfold NodeFn.emptyIdx Ideal.emptyIdx
    rw [hfs, Nat.min_eq_left hle]
    apply List.filter_congr
    intro i hi
    have hf := hfl i (by rw [List.mem_range] at hi; omega)
    rw [Bool.eq_iff_iff, beq_iff_eq, beq_iff_eq]
    exact hf
  · intro i
    unfold NodeFn.proof Ideal.proof
    by_cases hi : i < 2 ^ s.depth
    · rw [if_neg (by omega), if_pos hi,
        NodeFn.path_eq_proofAux hnode s.depth i (Nat.le_refl _) hi]
    · rw [if_pos (by omega), if_neg hi]

end Sim

end Zk.Tree
