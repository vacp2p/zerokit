import ZkModel.Basic
import Mathlib.NumberTheory.LucasPrimality
import Mathlib.Tactic.NormNum.Prime
/-!
# Bridge between the `Nat`-level field arithmetic of `ZkModel.Basic` and `ZMod P`

* `powMod` (fuelled square-and-multiply) is modular exponentiation (`powMod_eq`);
* `P` is prime (Lucas/Pratt certificate, kernel-evaluated `powMod`);
* Fermat: `fmul b (finv b) = 1` for canonical non-zero `b`.
-/
namespace Zk

/-! ## `powMod` is modular exponentiation -/

theorem powModAux_cast (m : ℕ) : ∀ (fuel b e acc : ℕ), e < 2 ^ fuel →
    ((powModAux fuel b e m acc : ℕ) : ZMod m) = (acc : ZMod m) * (b : ZMod m) ^ e := by
  intro fuel
  induction fuel with
  | zero =>
    intro b e acc h
    obtain rfl : e = 0 := by omega
    simp [powModAux]
  | succ n ih =>
    intro b e acc h
    unfold powModAux
    split
    · next he => simp [he]
    · rw [ih _ _ _ (by rw [pow_succ] at h; omega), ZMod.natCast_mod, Nat.cast_mul, ← pow_two, ← pow_mul]
      -- `e = 2 * (e / 2) + e % 2`, and the accumulator took the factor `b ^ (e % 2)`
      conv_rhs => rw [← Nat.div_add_mod e 2, pow_add]
      split
      · next hodd =>
        rw [hodd, ZMod.natCast_mod, Nat.cast_mul]
        ring
      · rw [show e % 2 = 0 by omega]
        ring

theorem powMod_cast (b e m : ℕ) (he : e < 2 ^ 256) :
    ((powMod b e m : ℕ) : ZMod m) = (b : ZMod m) ^ e := by
  unfold powMod
  rw [powModAux_cast m 256 _ _ _ he, ZMod.natCast_mod, ZMod.natCast_mod]
  simp

theorem powModAux_lt (m : Nat) (hm : 0 < m) : ∀ (fuel b e acc : Nat), acc < m →
    powModAux fuel b e m acc < m := by
  intro fuel
  induction fuel with
  | zero =>
    intro b e acc h
    simpa [powModAux] using h
  | succ n ih =>
    intro b e acc h
    unfold powModAux
    split
    · exact h
    · apply ih
      split
      · exact Nat.mod_lt _ hm
      · exact h

theorem powMod_lt (b e m : Nat) (hm : 1 < m) : powMod b e m < m := by
  unfold powMod
  exact powModAux_lt m (by omega) _ _ _ _ (Nat.mod_lt _ (by omega))

theorem powMod_eq (b e m : Nat) (he : e < 2^256) (hm : 1 < m) : powMod b e m = b ^ e % m := by
  rw [← Nat.mod_eq_of_lt (powMod_lt b e m hm), ← ZMod.natCast_eq_natCast_iff', powMod_cast b e m he,
    Nat.cast_pow]

/-! ## `P` is prime -/

/-- One node of a Pratt certificate: `g` has order `p - 1` modulo `p`, checked on the listed
    factorisation of `p - 1` (Lucas). `hL` holds the primality proofs of the factors, one per
    entry; the arithmetic `h` is decidable and is left to the kernel, which evaluates `powMod`
    at once. -/
theorem prime_of_cert (p g : ℕ) (fs : List (ℕ × ℕ)) (hL : fs.Forall fun x => x.1.Prime)
    (h : 1 < p ∧ p < 2 ^ 256 ∧ (fs.map fun x => x.1 ^ x.2).prod = p - 1 ∧ powMod g (p - 1) p = 1 ∧
      ∀ x ∈ fs, powMod g ((p - 1) / x.1) p % p ≠ 1) : p.Prime := by
  obtain ⟨hp, hlt, hprod, h1, h2⟩ := h
  have cast : ∀ e, e ≤ p - 1 → ((powMod g e p : ℕ) : ZMod p) = (g : ZMod p) ^ e :=
    fun e he => powMod_cast g e p (by omega)
  apply lucas_primality p (g : ZMod p)
  · rw [← cast _ le_rfl, h1, Nat.cast_one]
  · intro q hq hdvd hcontra
    -- a prime divisor of `p - 1` is one of the listed primes
    rw [← hprod] at hdvd
    obtain ⟨a, ha, hqa⟩ := (Prime.dvd_prod_iff (Nat.prime_iff.mp hq)).mp hdvd
    obtain ⟨x, hx, rfl⟩ := List.mem_map.mp ha
    obtain rfl : q = x.1 :=
      (Nat.prime_dvd_prime_iff_eq hq (List.forall_iff_forall_mem.mp hL x hx)).mp (hq.dvd_of_dvd_pow hqa)
    apply h2 x hx
    rw [← cast _ (Nat.div_le_self _ _)] at hcontra
    have := (ZMod.natCast_eq_natCast_iff' _ _ _).mp (hcontra.trans Nat.cast_one.symm)
    rwa [Nat.mod_eq_of_lt hp] at this

-- no node of the certificate below uses this one; it stands for users of the development
theorem prime_5501 : Nat.Prime 5501 := by norm_num

theorem prime_237073 : Nat.Prime 237073 :=
  prime_of_cert 237073 15 [(2,4),(3,1),(11,1),(449,1)]
    ⟨Nat.prime_two, Nat.prime_three, by norm_num, by norm_num⟩ (by decide +kernel)

theorem prime_405928799 : Nat.Prime 405928799 :=
  prime_of_cert 405928799 22 [(2,1),(11,1),(4999,1),(3691,1)]
    ⟨Nat.prime_two, by norm_num, by norm_num, by norm_num⟩ (by decide +kernel)

theorem prime_93001 : Nat.Prime 93001 :=
  prime_of_cert 93001 14 [(2,3),(3,1),(5,3),(31,1)]
    ⟨Nat.prime_two, Nat.prime_three, Nat.prime_five, by norm_num⟩ (by decide +kernel)

theorem prime_12048837557 : Nat.Prime 12048837557 :=
  prime_of_cert 12048837557 2 [(2,2),(7,2),(661,1),(93001,1)]
    ⟨Nat.prime_two, by norm_num, by norm_num, prime_93001⟩ (by decide +kernel)

theorem prime_5156902474397 : Nat.Prime 5156902474397 :=
  prime_of_cert 5156902474397 2 [(2,2),(107,1),(12048837557,1)]
    ⟨Nat.prime_two, by norm_num, prime_12048837557⟩ (by decide +kernel)

theorem prime_1670836401704629 : Nat.Prime 1670836401704629 :=
  prime_of_cert 1670836401704629 2 [(2,2),(3,4),(5156902474397,1)]
    ⟨Nat.prime_two, Nat.prime_three, prime_5156902474397⟩ (by decide +kernel)

theorem prime_20963 : Nat.Prime 20963 :=
  prime_of_cert 20963 2 [(2,1),(47,1),(223,1)]
    ⟨Nat.prime_two, by norm_num, by norm_num⟩ (by decide +kernel)

theorem prime_41927 : Nat.Prime 41927 :=
  prime_of_cert 41927 5 [(2,1),(20963,1)] ⟨Nat.prime_two, prime_20963⟩ (by decide +kernel)

theorem prime_1593227 : Nat.Prime 1593227 :=
  prime_of_cert 1593227 2 [(2,1),(19,1),(41927,1)]
    ⟨Nat.prime_two, by norm_num, prime_41927⟩ (by decide +kernel)

theorem prime_1637 : Nat.Prime 1637 := by norm_num

theorem prime_639533339 : Nat.Prime 639533339 :=
  prime_of_cert 639533339 2 [(2,1),(229,1),(853,1),(1637,1)]
    ⟨Nat.prime_two, by norm_num, by norm_num, prime_1637⟩ (by decide +kernel)

theorem prime_65865678001877903 : Nat.Prime 65865678001877903 :=
  prime_of_cert 65865678001877903 5 [(2,1),(83,1),(379,1),(1637,1),(639533339,1)]
    ⟨Nat.prime_two, by norm_num, by norm_num, prime_1637, prime_639533339⟩ (by decide +kernel)

theorem prime_13818364434197438864469338081 : Nat.Prime 13818364434197438864469338081 :=
  prime_of_cert 13818364434197438864469338081 3
    [(2,5),(5,1),(823,1),(1593227,1),(65865678001877903,1)]
    ⟨Nat.prime_two, Nat.prime_five, by norm_num, prime_1593227, prime_65865678001877903⟩
    (by decide +kernel)

theorem P_prime : Nat.Prime P :=
  prime_of_cert P 5
    [(2,28),(3,2),(13,1),(29,1),(983,1),(11003,1),(237073,1),(405928799,1),(1670836401704629,1),
      (13818364434197438864469338081,1)]
    ⟨Nat.prime_two, Nat.prime_three, by norm_num, by norm_num, by norm_num, by norm_num,
      prime_237073, prime_405928799, prime_1670836401704629, prime_13818364434197438864469338081⟩
    (by decide +kernel)

instance : Fact (Nat.Prime P) := ⟨P_prime⟩

/-! ## casting the `Nat` operations into the field `ZMod P` -/

theorem cast_fadd (a b : Nat) : ((fadd a b : ℕ) : ZMod P) = (a : ZMod P) + b := by
  rw [fadd, ZMod.natCast_mod, Nat.cast_add]

theorem cast_fmul (a b : Nat) : ((fmul a b : ℕ) : ZMod P) = (a : ZMod P) * b := by
  rw [fmul, ZMod.natCast_mod, Nat.cast_mul]

theorem cast_fsub (a b : Nat) : ((fsub a b : ℕ) : ZMod P) = (a : ZMod P) - b := by
  unfold fsub
  have hle : b % P ≤ P := Nat.le_of_lt (Nat.mod_lt _ P_pos)
  rw [ZMod.natCast_mod, Nat.cast_add, Nat.cast_sub hle, ZMod.natCast_self, ZMod.natCast_mod]
  ring

theorem cast_finv (b : Nat) : ((finv b : ℕ) : ZMod P) = (b : ZMod P)⁻¹ := by
  unfold finv
  rw [powMod_cast b (P - 2) P (by decide)]
  by_cases h : (b : ZMod P) = 0
  · rw [h, inv_zero, zero_pow (by decide)]
  · -- Fermat: the unit group of `ZMod P` has `P - 1` elements
    have hu : Units.mk0 (b : ZMod P) h ^ (P - 1) = 1 := by
      rw [← (Nat.prime_iff_card_units P).mp P_prime, pow_card_eq_one]
    have hf : (b : ZMod P) ^ (P - 1) = 1 := by simpa using congrArg Units.val hu
    exact eq_inv_of_mul_eq_one_right (by rw [← pow_succ', ← hf]; rfl)

theorem cast_fdiv (a b : Nat) : ((fdiv a b : ℕ) : ZMod P) = (a : ZMod P) / b := by
  rw [fdiv, cast_fmul, cast_finv, div_eq_mul_inv]

theorem eq_of_cast_eq {a b : Nat} (ha : a < P) (hb : b < P) (h : (a : ZMod P) = (b : ZMod P)) : a = b := by
  rw [ZMod.natCast_eq_natCast_iff'] at h
  rwa [Nat.mod_eq_of_lt ha, Nat.mod_eq_of_lt hb] at h

theorem cast_ne_of_ne {a b : Nat} (ha : a < P) (hb : b < P) (h : a ≠ b) : (a : ZMod P) ≠ (b : ZMod P) :=
  fun hc => h (eq_of_cast_eq ha hb hc)

theorem fsub_lt (a b : Nat) : fsub a b < P := Nat.mod_lt _ P_pos
theorem fadd_lt (a b : Nat) : fadd a b < P := Nat.mod_lt _ P_pos
theorem fmul_lt (a b : Nat) : fmul a b < P := Nat.mod_lt _ P_pos

theorem finv_mul (b : Nat) (hb : b < P) (h0 : b ≠ 0) : fmul b (finv b) = 1 := by
  apply eq_of_cast_eq (fmul_lt _ _) (by decide)
  have hne : (b : ZMod P) ≠ 0 := by simpa using cast_ne_of_ne hb P_pos h0
  rw [cast_fmul, cast_finv, Nat.cast_one, mul_inv_cancel₀ hne]

end Zk
