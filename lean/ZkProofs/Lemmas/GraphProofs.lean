import ZkProofs.Lemmas.GraphLemmas
import ZkProofs.Lemmas.BundledFacts
/-!
# Proofs of the statements of `GraphDefs.lean` (C20, C05)
-/
namespace Zk.Graph
open Zk.Graph.Storage

theorem evalAll_denote : EvalAllDenoteStmt := by
  intro nodes inputs values h
  obtain ⟨h1, h2⟩ := evalAll_sound nodes.toArray inputs nodes #[] values rfl
    (fun i hi => absurd hi (Nat.not_lt_zero i)) h
  exact ⟨by simpa using h1, fun i hi => h2 i (by simpa [h1] using hi) _ (Nat.lt_succ_self i)⟩

theorem evaluate_denote : EvaluateDenoteStmt := by
  intro nodes inputs outs vs h
  unfold evaluate at h
  split at h
  · next values hv =>
    obtain ⟨hsz, hd⟩ := evalAll_denote nodes inputs values hv
    split at h
    · next hall =>
      cases h
      refine ⟨List.length_map _, fun k hk => ?_⟩
      have hlt : outs[k] < values.size := by simpa using List.all_eq_true.mp hall _ (List.getElem_mem hk)
      rw [getElem!_pos outs k hk, getElem!_pos _ k (by rw [List.length_map]; exact hk), List.getElem_map]
      exact hd _ (hsz ▸ hlt)
    · cases h
  · cases h
  · cases h

theorem evaluate_total : EvaluateTotalStmt := by
  intro nodes inputs outs hwf hin houts
  have hin' : ∀ x ∈ inputs, x < P := by
    intro x hx
    obtain ⟨i, hi, rfl⟩ := Array.getElem_of_mem hx
    rw [← getElem!_pos inputs i hi]
    exact hin i hi
  obtain ⟨values, e1, e2, e3⟩ := evalAll_total inputs hin' nodes #[] hwf (fun x hx => by simp at hx)
  simp only [Array.size_empty, Nat.zero_add] at e2
  have hall : (outs.all fun o => decide (o < values.size)) = true := by
    rw [List.all_eq_true]; intro o ho; simpa [e2] using houts o ho
  refine ⟨outs.map (fun o => values[o]!), ?_, by simp, ?_⟩
  · simp only [evaluate, e1, hall, if_true]
  · intro v hv
    obtain ⟨o, ho, rfl⟩ := List.mem_map.mp hv
    have ho' : o < values.size := e2 ▸ houts o ho
    rw [getElem!_pos values o ho']
    exact e3 _ (Array.getElem_mem ho')

/-- order-independence is a corollary of the placement: both buffers are described cell by cell by
    the same facts -/
theorem populate_perm : PopulatePermStmt := by
  intro info ins ins' buf hlay hfit hp
  have hfit' : InputsFit info ins' := ⟨(hp.map (·.1)).nodup_iff.mpr hfit.1, fun e he => hfit.2 e (hp.mem_iff.mp he)⟩
  have hbound : ∀ e ∈ info, e.2.1 + e.2.2 ≤ buf.size := fun e he => (hlay.2.1 e he).2
  obtain ⟨b, hb, hs, hcell⟩ := populate_spec ins buf hbound hfit.2
  obtain ⟨b', hb', hs', _⟩ := populate_spec ins' buf hbound hfit'.2
  refine ⟨?_, b, hb, hs⟩
  rw [hb, hb']
  congr 1
  apply Array.ext (hs'.trans hs.symm)
  intro p h1 h2
  rw [← getElem!_pos b' p h1, ← getElem!_pos b p h2]
  rcases hcell p with ⟨e, he, off, len, hl, h1, h2, hv⟩ | ⟨hno, hv⟩
  · have := populate_place hlay hfit' hb' e (hp.mem_iff.mpr he) off len hl (p - off) (by omega)
    rw [show off + (p - off) = p by omega] at this
    rw [this, hv]
  · rw [hv, populate_frame hlay hfit' hb' p fun e he => hno e (hp.mem_iff.mp he)]

theorem populate_places : PopulatePlacesStmt :=
  fun _ _ _ _ hlay hfit h => ⟨populate_place hlay hfit h, fun p _ => populate_frame hlay hfit h p⟩

theorem writeback_reader : WriteBackStmt := by
  intro bytes k n hk _
  show (((WBR.read ⟨bytes, []⟩ 10).2.write ((WBR.read ⟨bytes, []⟩ 10).1.drop k)).read n).1 = _
  rw [(read_spec _ n).1, pushback_spec _ hk]
  rfl

theorem node_conv : NodeConvStmt := by
  intro n hs
  cases n <;> simp only [Serializable] at hs
  case input i => exact ⟨_, rfl, by simp only [ofProto, Nat.mod_eq_of_lt hs]⟩
  case montConstant c =>
    exact ⟨_, rfl, by simp only [ofProto, leNat_minLE 32 c (Nat.lt_trans hs Zk.P_lt), Nat.mod_eq_of_lt hs]⟩
  case uno op a => exact ⟨_, rfl, by cases op <;> simp [ofProto, Nat.mod_eq_of_lt hs]⟩
  case duo op a b =>
    exact ⟨_, rfl, by simp only [ofProto, opOfCode_opCode, Nat.mod_eq_of_lt hs.1, Nat.mod_eq_of_lt hs.2]⟩
  case tres op a b c =>
    cases op
    exact ⟨_, rfl, by simp only [ofProto, if_true, Nat.mod_eq_of_lt hs.1, Nat.mod_eq_of_lt hs.2.1, Nat.mod_eq_of_lt hs.2.2]⟩

/-! ## the bundled graph -/

open Zk.Generated.Bundled

theorem bundled_wf : BundledWfStmt := by
  obtain ⟨hwf, hlens⟩ := scanLens_sound (q := fun l i => wfAux 46 l i = true)
    (fun a l i hp hq => by simp only [wfAux, ← nodeOkB_eq, hp, hq, Bool.and_self])
    (fun _ => rfl) _ nodeLens 0 chunks_scan
  obtain ⟨hall, hslens⟩ := scanLens_sound (q := fun l _ => l.all (fun o => decide (o < 23414)) = true)
    (fun a l _ hp hq => by rw [blt_eq_decide] at hp; simp only [List.all_cons, hp, hq, Bool.and_self])
    (fun _ => rfl) _ signalLens 0 signals_scan
  have hget : ∀ i, nodes[i]? = getAt chunks nodeLens i := by
    intro i; rw [nodes_eq_chunks, getElem?_flatten_getAt, hlens]
  obtain ⟨p0, p4, p5, p1, p2, p3⟩ := bundled_pos
  refine ⟨nodes_eq_chunks ▸ hwf, nodes_eq_chunks ▸ bundled_inputsSize, ?_, ?_, signals_eq_chunks ▸ hall, rfl,
    (hget _).trans p0, (hget _).trans p4, (hget _).trans p5, ?_, rfl⟩
  · rw [nodes_eq_chunks, List.length_flatten, hlens]; rfl
  · rw [signals_eq_chunks, List.length_flatten, hslens]; rfl
  · intro k hk
    simp only [List.mem_cons, List.not_mem_nil, or_false] at hk
    rcases hk with rfl | rfl | rfl <;> rw [hget]
    · exact isAdd_spec _ p1
    · exact isAdd_spec _ p2
    · exact isAdd_spec _ p3

theorem bundled_layoutOk : LayoutOk inputsInfo 46 := by
  unfold LayoutOk; decide +kernel

theorem Assignment.inputsFit {ins : List (String × List Nat)} (h : Assignment ins) : InputsFit inputsInfo ins := by
  obtain ⟨hp, h20, h1, _⟩ := h
  refine ⟨hp.nodup_iff.mpr (by decide +kernel), ?_⟩
  intro e he
  have hmem := hp.mem_iff.mp (List.mem_map_of_mem he)
  have htab : ∀ name ∈ inputsInfo.map (·.1), (inputsInfo.lookup name).map (·.2) =
      some (if name = "pathElements" ∨ name = "identityPathIndex" then 20 else 1) := by decide +kernel
  obtain ⟨⟨off, len⟩, hl, hlen⟩ := Option.map_eq_some_iff.mp (htab _ hmem)
  refine ⟨off, len, hl, ?_⟩
  simp only at hlen
  by_cases hc : e.1 = "pathElements" ∨ e.1 = "identityPathIndex"
  · rw [hlen, if_pos hc, h20 e he hc]
  · rw [hlen, if_neg hc, h1 e he hc]

theorem getInputsBuffer_size (n : Nat) : (getInputsBuffer n).size = n := by
  simp [getInputsBuffer]

theorem getInputsBuffer_lt (n p : Nat) : (getInputsBuffer n)[p]! < P := by
  unfold getInputsBuffer
  rw [getElem!_setIfInBounds]
  split
  · decide
  · have : (Array.replicate n 0)[p]! = 0 := by
      simp only [Array.getElem!_eq_getD, Array.getD_eq_getD_getElem?, Array.getElem?_replicate]
      split <;> rfl
    rw [this]; exact P_pos

theorem bundled_total : BundledTotalStmt := by
  intro ins ins' hA hperm
  obtain ⟨hwf, hsz, hlen, hslen, hsall, _⟩ := bundled_wf
  have hlay : LayoutOk inputsInfo (getInputsBuffer 46).size := by
    rw [getInputsBuffer_size]; exact bundled_layoutOk
  have hfit := hA.inputsFit
  obtain ⟨heq, b, hb, hbs⟩ := populate_perm inputsInfo ins ins' (getInputsBuffer 46) hlay hfit hperm
  rw [getInputsBuffer_size] at hbs
  have hcanon : ∀ i, i < b.size → b[i]! < P := by
    intro p _
    rcases populate_at hlay hfit hb p with ⟨e, he, off, len, hl, h1, h2, hv⟩ | ⟨_, hv⟩
    · obtain ⟨off', len', hl', hlen'⟩ := hfit.2 e he
      have hj : p - off < e.2.length := by rw [hl] at hl'; cases hl'; omega
      rw [hv, getElem!_pos e.2 (p - off) hj]
      exact hA.2.2.2 e he _ (List.getElem_mem hj)
    · rw [hv]; exact getInputsBuffer_lt 46 p
  obtain ⟨vs, hv, hvl, hvc⟩ := evaluate_total nodes b signals (hbs ▸ hwf) hcanon (by
    intro o ho
    have := List.all_eq_true.mp hsall o ho
    rw [hlen]; simpa using this)
  refine ⟨vs, ?_, by rw [hvl, hslen], hvc, ?_⟩
  · simp only [calcWitness, hsz, hb]; exact hv
  · simp only [calcWitness, hsz, heq, hb]; exact hv

end Zk.Graph
