import ZkProofs.Lemmas.ZkeyDefs
/-!
# Proofs of the statements in `ZkeyDefs.lean`

The record loop of `matrices()` is followed through an invariant on the two arrays of rows, whatever
they hold at the start: after the records `ks`, row `r` of matrix `m` is what it was before with
`rowOf m r ks` appended (`pushCoef_ok` for one record, `pushAll_ok` by induction).
-/
namespace Zk.Zkey
open Zk

/-! ## sections -/

theorem find_none_of_ne (ss : List Section) (id : Nat) (h : ∀ t ∈ ss, t.id ≠ id) :
    ss.find? (fun s => s.id == id) = none := by
  rw [List.find?_eq_none]
  intro t ht
  simpa using h t ht

theorem section_first_wins : SectionFirstWinsStmt := by
  intro pre post s h
  unfold getSection
  rw [List.find?_append, find_none_of_ne pre s.id h]
  simp

theorem section_missing : SectionMissingStmt := by
  intro ss id h
  unfold getSection
  rw [find_none_of_ne ss id h]

theorem getSection_of_mem {ss : List Section} (hn : (ss.map (·.id)).Nodup) {s : Section} (hs : s ∈ ss) :
    getSection ss s.id = .ok s := by
  obtain ⟨pre, post, rfl⟩ := List.append_of_mem hs
  refine section_first_wins pre post s fun t ht he => ?_
  rw [List.map_append, List.map_cons, List.nodup_append] at hn
  exact hn.2.2 _ (List.mem_map_of_mem ht) _ List.mem_cons_self he

theorem section_order_irrelevant : SectionOrderIrrelevantStmt := by
  intro ss ss' hp hn id
  by_cases h : ∃ s ∈ ss, s.id = id
  · obtain ⟨s, hs, rfl⟩ := h
    rw [getSection_of_mem hn hs, getSection_of_mem ((hp.map _).nodup_iff.mp hn) (hp.mem_iff.mp hs)]
  · have h : ∀ t ∈ ss, t.id ≠ id := fun t ht he => h ⟨t, ht, he⟩
    rw [section_missing ss id h, section_missing ss' id fun t ht => h t (hp.mem_iff.mpr ht)]

/-! ## coefficient values -/

theorem coef_value_canonical : CoefValueCanonicalStmt := fun _ => Nat.mod_lt _ P_pos

theorem rinv2_spec : RInv2 * ((2 ^ 256 % P) * (2 ^ 256 % P)) % P = 1 := by decide +kernel

theorem coef_value : CoefValueStmt := by
  intro raw
  rw [coefValue, Nat.mod_mul_mod, Nat.mul_assoc, Nat.mod_mul_mod, Nat.mul_assoc, Nat.mul_mod, rinv2_spec,
    Nat.mul_one, Nat.mod_mod]

/-! ## cursor -/

theorem cursor_read : CursorReadStmt := by
  intro data p n
  unfold Cur.read Cur.at
  simp only [List.length_take, List.length_drop, List.drop_drop]
  exact ⟨fun h => by rw [if_pos (by omega)], fun hn h => by rw [if_neg (by omega)]⟩

theorem cursor_read_false : ¬ CursorReadStmtOriginal := by
  intro h
  have := (h [] 1 0).2 (by decide)
  simp [Cur.read, Cur.at] at this

/-! ## the record loop of `matrices()` -/

theorem getElem!_modify {α} [Inhabited α] {a : Array α} {i r : Nat} {f : α → α} (hr : r < a.size) :
    (a.modify i f)[r]! = if i = r then f a[r]! else a[r]! := by
  rw [getElem!_pos _ r (by simpa using hr), getElem!_pos a r hr, Array.getElem_modify]

theorem rowOf_cons (m r : Nat) (k : Coef) (ks : List Coef) : rowOf m r (k :: ks) = rowOf m r [k] ++ rowOf m r ks := by
  rw [rowOf, rowOf, rowOf, ← List.map_append, ← List.filter_append, List.singleton_append]

theorem pushCoef_ok {n : Nat} {a0 b0 : Rows} (ha : a0.size = n) (hb : b0.size = n) {k : Coef}
    (hk : k.matrix < 2 ∧ k.constraint < n) :
    ∃ a b : Rows, pushCoef (a0, b0) k = .ok (a, b) ∧ a.size = n ∧ b.size = n ∧
      ∀ r, r < n → a[r]! = a0[r]! ++ rowOf 0 r [k] ∧ b[r]! = b0[r]! ++ rowOf 1 r [k] := by
  unfold pushCoef
  by_cases hm : k.matrix = 0
  · rw [if_pos hm, if_pos (ha ▸ hk.2)]
    refine ⟨_, _, rfl, by simpa using ha, hb, fun r hr => ?_⟩
    rw [getElem!_modify (ha ▸ hr)]
    by_cases hc : k.constraint = r <;> simp [rowOf, hm, hc]
  · have hm1 : k.matrix = 1 := by omega
    rw [if_neg hm, if_pos hm1, if_pos (hb ▸ hk.2)]
    refine ⟨_, _, rfl, ha, by simpa using hb, fun r hr => ?_⟩
    rw [getElem!_modify (hb ▸ hr)]
    by_cases hc : k.constraint = r <;> simp [rowOf, hm1, hc]

theorem pushCoef_panic {n : Nat} {a0 b0 : Rows} (ha : a0.size = n) (hb : b0.size = n) {k : Coef}
    (hk : ¬ (k.matrix < 2 ∧ k.constraint < n)) : pushCoef (a0, b0) k = .panic := by
  simp only [pushCoef, ha, hb]
  split
  · rw [if_neg (by omega)]
  · split
    · rw [if_neg (by omega)]
    · rfl

theorem pushAll_ok (n : Nat) (ks : List Coef) : ∀ (a0 b0 : Rows), a0.size = n → b0.size = n →
    (∀ k ∈ ks, k.matrix < 2 ∧ k.constraint < n) →
    ∃ a b : Rows, pushAll ks (a0, b0) = .ok (a, b) ∧ a.size = n ∧ b.size = n ∧
      ∀ r, r < n → a[r]! = a0[r]! ++ rowOf 0 r ks ∧ b[r]! = b0[r]! ++ rowOf 1 r ks := by
  induction ks with
  | nil => exact fun a0 b0 ha hb _ => ⟨a0, b0, rfl, ha, hb, fun r _ => by simp [rowOf]⟩
  | cons k ks ih =>
    intro a0 b0 ha hb h
    obtain ⟨a1, b1, hp, ha1, hb1, h1⟩ := pushCoef_ok ha hb (h k List.mem_cons_self)
    obtain ⟨a, b, he, hsa, hsb, hr⟩ := ih a1 b1 ha1 hb1 fun t ht => h t (List.mem_cons_of_mem _ ht)
    refine ⟨a, b, by simpa only [pushAll, hp] using he, hsa, hsb, fun r hrn => ?_⟩
    rw [rowOf_cons 0, rowOf_cons 1, (hr r hrn).1, (hr r hrn).2, (h1 r hrn).1, (h1 r hrn).2, List.append_assoc,
      List.append_assoc]
    exact ⟨rfl, rfl⟩

theorem pushAll_panic (n : Nat) (ks : List Coef) : ∀ (a0 b0 : Rows), a0.size = n → b0.size = n →
    (∃ k ∈ ks, ¬ (k.matrix < 2 ∧ k.constraint < n)) → pushAll ks (a0, b0) = .panic := by
  induction ks with
  | nil => exact fun _ _ _ _ ⟨_, hk, _⟩ => nomatch hk
  | cons k ks ih =>
    intro a0 b0 ha hb ⟨t, ht, hbad⟩
    by_cases hk : k.matrix < 2 ∧ k.constraint < n
    · obtain ⟨a1, b1, hp, ha1, hb1, _⟩ := pushCoef_ok ha hb hk
      simp only [pushAll, hp]
      rcases List.mem_cons.mp ht with rfl | ht
      · exact absurd hk hbad
      · exact ih a1 b1 ha1 hb1 ⟨t, ht, hbad⟩
    · simp only [pushAll, pushCoef_panic ha hb hk]

theorem pushAll_spec : PushAllSpecStmt := by
  intro n ks
  constructor
  · intro h
    obtain ⟨a, b, he, hsa, hsb, hr⟩ := pushAll_ok n ks (Array.replicate n []) (Array.replicate n []) (by simp) (by simp) h
    refine ⟨a, b, he, hsa, hsb, fun r hrn => ?_⟩
    simpa [hrn] using hr r hrn
  · exact pushAll_panic n ks _ _ (by simp) (by simp)

theorem wsub_eq (a b : Nat) (h : b ≤ a) (ha : a < 2 ^ 64) : wsub a b = a - b := by
  unfold wsub
  omega

theorem getElem!_take_toList {α} [Inhabited α] (a : Array α) (m r : Nat) (hr : r < m) (hra : r < a.size) :
    (a.toList.take m)[r]! = a[r]! := by
  have hl : r < (a.toList.take m).length := by
    rw [List.length_take, Array.length_toList]; omega
  rw [getElem!_pos (a.toList.take m) r hl, getElem!_pos a r hra, List.getElem_take, Array.getElem_toList]

theorem build_matrices : BuildMatricesStmt := by
  intro hd ks h hle hlt
  obtain ⟨a, b, he, hsa, hsb, hr⟩ := pushAll_spec hd.domainSize ks |>.1 h
  unfold buildMatrices
  rw [he]
  refine ⟨_, rfl, ?_⟩
  simp only [wsub_eq _ _ hle hlt, List.length_take, Array.length_toList, hsa, hsb, true_and]
  intro r hrn
  have hr1 : r < hd.domainSize := by omega
  have hr2 : r < maxConstraint ks - hd.nPublic := by omega
  obtain ⟨h1, h2⟩ := hr r hr1
  rw [← h1, ← h2, getElem!_take_toList a _ r hr2 (by omega), getElem!_take_toList b _ r hr2 (by omega)]
  exact ⟨rfl, rfl⟩

end Zk.Zkey
