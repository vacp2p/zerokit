import ZkProofs.Lemmas.ArrayLemmas
import ZkProofs.Lemmas.NodeFn
/-!
# What the mutators of the ideal tree do to what a backend can see of it

A refinement relation sees an ideal tree only through its depth, its high-water mark, its leaf
function and the `live` lookup: what the mutators do to those four is said once, here. `set` and
`batch` are reduced to `setRange`, and the two kinds of state change a backend makes (write a range
of leaves and re-hash; clear one flag) are lifted to `Sim`.
-/
namespace Zk.Tree

variable {α : Type}

/-! ## association lists -/

theorem lookup_cons {K β : Type} [DecidableEq K] [BEq K] [LawfulBEq K] (l : List (K × β)) (i j : K) (b : β) :
    List.lookup j ((i, b) :: l) = if j = i then some b else List.lookup j l := by
  rw [List.lookup_cons]
  by_cases h : j = i
  · subst h; simp
  · rw [beq_false_of_ne h, if_neg h]

/-- the instance in `ZkModel.Map` is stated for the `BEq` derived from `DecidableEq`; pairs use
    `instBEqProd`, hence this one for every lawful `BEq` -/
instance AList.lawful {K V : Type} [DecidableEq K] [BEq K] [LawfulBEq K] : LawfulMapLike (AList K V) K V where
  get?_empty := by intro k; rfl
  get?_insert := by
    intro m k k' v
    show List.lookup k' ((k, v) :: m.l) = if k = k' then some v else List.lookup k' m.l
    rw [lookup_cons]
    by_cases h : k = k'
    · rw [if_pos h, if_pos h.symm]
    · rw [if_neg h, if_neg (Ne.symm h)]

/-! ## depth and high-water mark -/

namespace Ideal

theorem writeMany_depth (s : Ideal α) (start : Nat) (vs : List α) :
    (s.writeMany start vs).depth = s.depth := by
  induction vs generalizing s start with
  | nil => rfl
  | cons v r ih => exact ih _ _

theorem pm_writeMany_next (s : Ideal α) (start : Nat) (vs : List α) :
    (s.writeMany start vs).next = s.next := by
  induction vs generalizing s start with
  | nil => rfl
  | cons v r ih => exact ih _ _

section
variable [Inhabited α]

-- this statement takes `[Inhabited α]`, which nothing in it needs
set_option linter.unusedSectionVars false in
theorem writeMany_next (s : Ideal α) (start : Nat) (vs : List α) :
    (s.writeMany start vs).next = s.next := pm_writeMany_next s start vs

end

theorem delete_depth (dflt : α) (s : Ideal α) (i : Nat) : (s.delete dflt i).depth = s.depth := by
  unfold Ideal.delete; split <;> rfl

theorem delete_next (dflt : α) (s : Ideal α) (i : Nat) : (s.delete dflt i).next = s.next := by
  unfold Ideal.delete; split <;> rfl

theorem removeMany_depth (dflt : α) (s : Ideal α) (rem : List Nat) :
    (s.removeMany dflt rem).depth = s.depth := by
  induction rem generalizing s with
  | nil => rfl
  | cons i r ih => exact (ih _).trans (delete_depth dflt s i)

theorem removeMany_next (dflt : α) (s : Ideal α) (rem : List Nat) :
    (s.removeMany dflt rem).next = s.next := by
  induction rem generalizing s with
  | nil => rfl
  | cons i r ih => exact (ih _).trans (delete_next dflt s i)

/-! ## leaves and liveness -/

def overlay (lf : Nat → α) (start : Nat) (vs : List α) (j : Nat) : α :=
  if start ≤ j then (vs[j - start]?).getD (lf j) else lf j

theorem overlay_nil (lf : Nat → α) (start j : Nat) : overlay lf start [] j = lf j := by
  simp [overlay]

theorem overlay_out {lf : Nat → α} {start : Nat} {vs : List α} {j : Nat}
    (h : j < start ∨ start + vs.length ≤ j) : overlay lf start vs j = lf j := by
  unfold overlay
  split
  · rw [List.getElem?_eq_none (by omega)]; rfl
  · rfl

theorem overlay_cons (lf : Nat → α) (start : Nat) (v : α) (r : List α) (j : Nat) :
    overlay lf start (v :: r) j = overlay (fun k => if k = start then v else lf k) (start + 1) r j := by
  simp only [overlay]
  by_cases h1 : start + 1 ≤ j
  · rw [if_pos h1, if_pos (by omega), if_neg (by omega),
      show j - start = (j - (start + 1)) + 1 by omega, List.getElem?_cons_succ]
  · rw [if_neg h1]
    by_cases h2 : j = start
    · subst h2; simp
    · rw [if_neg h2, if_neg (by omega)]

theorem overlay_shift (lf : Nat → α) (c start : Nat) (vs : List α) (j : Nat) :
    overlay lf (c + start) vs (c + j) = overlay (fun k => lf (c + k)) start vs j := by
  unfold overlay
  by_cases h : start ≤ j
  · rw [if_pos h, if_pos (by omega), show c + j - (c + start) = j - start by omega]
  · rw [if_neg h, if_neg (by omega)]

theorem leaf_cons (dflt : α) {s s' : Ideal α} {i : Nat} {v : α} (h : s'.writes = (i, v) :: s.writes)
    (j : Nat) : s'.leaf dflt j = if j = i then v else s.leaf dflt j := by
  unfold Ideal.leaf
  rw [h, lookup_cons]
  by_cases hj : j = i
  · rw [if_pos hj, if_pos hj]
  · rw [if_neg hj, if_neg hj]

theorem leaf_writeMany (dflt : α) (s : Ideal α) (start : Nat) (vs : List α) (j : Nat) :
    (s.writeMany start vs).leaf dflt j = overlay (s.leaf dflt) start vs j := by
  induction vs generalizing s start with
  | nil => simp [Ideal.writeMany, overlay]
  | cons v r ih =>
    rw [Ideal.writeMany, ih, overlay_cons]
    congr 1
    funext k
    exact leaf_cons dflt rfl k

theorem live_writeMany (s : Ideal α) (start : Nat) (vs : List α) (j : Nat) :
    (s.writeMany start vs).live.lookup j =
      if start ≤ j ∧ j < start + vs.length then some true else s.live.lookup j := by
  induction vs generalizing s start with
  | nil => rw [if_neg (by simp)]; rfl
  | cons v r ih =>
    rw [Ideal.writeMany, ih, List.length_cons]
    show (if _ then _ else List.lookup j ((start, true) :: s.live)) = _
    rw [lookup_cons]
    by_cases h : j = start
    · subst h; simp
    · rw [if_neg h]
      by_cases h1 : start + 1 ≤ j ∧ j < start + 1 + r.length
      · rw [if_pos h1, if_pos (by omega)]
      · rw [if_neg h1, if_neg (by omega)]

/-! ## the other mutators are `setRange` -/

theorem set_eq_setRange (s : Ideal α) (i : Nat) (v : α) : s.set i v = s.setRange i [v] := by
  unfold Ideal.set Ideal.setRange
  by_cases h : i < s.cap
  · rw [if_pos h, if_pos (show i + [v].length ≤ s.cap from h)]; rfl
  · rw [if_neg h, if_neg (show ¬ i + [v].length ≤ s.cap from h)]

theorem batch_eq (dflt : α) (s : Ideal α) (start : Nat) (vs : List α) (rem : List Nat) :
    Ideal.batch dflt s start vs rem =
      if start + vs.length > s.cap ∨ rem.any (fun r => r ≥ s.cap) ∨ (vs.isEmpty ∧ rem.isEmpty) then .err
      else (s.removeMany dflt rem).setRange start vs := by
  unfold Ideal.batch Ideal.setRange Ideal.cap
  split
  · rfl
  · next h =>
    rw [removeMany_depth, removeMany_next, if_pos (Nat.le_of_not_gt fun c => h (Or.inl c))]

theorem batch_nil (dflt : α) (s : Ideal α) (start : Nat) {vs : List α} (hne : vs ≠ []) :
    Ideal.batch dflt s start vs [] = s.setRange start vs := by
  have hemp : vs.isEmpty = false := List.isEmpty_eq_false_iff.mpr hne
  rw [Ideal.batch_eq]
  by_cases hc : start + vs.length > s.cap
  · rw [if_pos (Or.inl hc)]
    unfold Ideal.setRange
    rw [if_neg (by omega)]
  · rw [if_neg (by simpa [hemp] using hc)]
    rfl

end Ideal

/-! ## outcomes -/

theorem RefinesOutcome.ok_right {σ : Type} {R : σ → Ideal α → Prop} {t : σ} {s s' : Ideal α}
    {ot : Outcome σ} (h : RefinesOutcome R t s ot (.ok s')) : ∃ t', ot = .ok t' ∧ R t' s' := by
  cases ot <;> simp [RefinesOutcome] at h ⊢ <;> exact h

/-- the `if` chain is the body of `Full.overrideRange` / `Optimal.overrideRange` (the three rejections
    in the order of the source); `ot` is its last arm, the range write `sr` on the state the removals leave -/
theorem RefinesOutcome.batch {σ : Type} {R : σ → Ideal α → Prop} {dflt : α} {t : σ} {s : Ideal α}
    (h : R t s) (start : Nat) (vs : List α) (rem : List Nat) {ot : Outcome σ} {sr : σ → Outcome σ}
    (hdm : ∃ t', ot = sr t' ∧ R t' (s.removeMany dflt rem))
    (hsr : ∀ t' s', R t' s' → RefinesOutcome R t' s' (sr t') (s'.setRange start vs)) :
    RefinesOutcome R t s
      (if vs.isEmpty ∧ rem.isEmpty then .err
       else if start + vs.length > s.cap then .err
       else if rem.any (fun i => i ≥ s.cap) then .err
       else ot)
      (Ideal.batch dflt s start vs rem) := by
  rw [Ideal.batch_eq]
  by_cases g : start + vs.length > s.cap ∨ (rem.any fun r => decide (r ≥ s.cap)) = true ∨
      (vs.isEmpty = true ∧ rem.isEmpty = true)
  · rw [if_pos g]
    rcases g with g | g | g
    · rw [if_pos g, ite_self]
      exact h
    · rw [if_pos g, ite_self, ite_self]
      exact h
    · rw [if_pos g]
      exact h
  · rw [if_neg g]
    simp only [not_or] at g
    rw [if_neg g.2.2, if_neg g.1, if_neg g.2.1]
    obtain ⟨t1, rfl, hr1⟩ := hdm
    have hsr := hsr t1 _ hr1
    have hfit : start + vs.length ≤ (s.removeMany dflt rem).cap := by
      unfold Ideal.cap at g ⊢
      rw [Ideal.removeMany_depth]
      omega
    rw [Ideal.setRange, if_pos hfit] at hsr ⊢
    obtain ⟨t2, e2, r2⟩ := hsr.ok_right
    rw [e2]
    exact r2

/-! ## state changes under `Sim` -/

namespace Sim

variable {H : α → α → α} {dflt : α} {d nx : Nat} {fl : Array Nat} {g : Nat → Nat → α} {s : Ideal α}

theorem writeMany (h : Sim H dflt d nx fl g s) {g' : Nat → Nat → α} {fl' : Array Nat} {nx' : Nat}
    (start : Nat) (vs : List α) (htree : HashTree H d g')
    (hleaf : ∀ i, i < 2 ^ d → g' d i = Ideal.overlay (g d) start vs i)
    (hfs : fl'.size = 2 ^ d)
    (hfl : ∀ i, i < 2 ^ d → fl'[i]! = if start ≤ i ∧ i < start + vs.length then 1 else fl[i]!)
    (hnx : nx' ≤ 2 ^ d) :
    Sim H dflt d nx' fl' g' { s.writeMany start vs with next := nx' } := by
  refine ⟨h.depth.trans (Ideal.writeMany_depth s start vs).symm, rfl, hnx, hfs, htree, ?_, ?_⟩
  · intro i hi
    show _ = (s.writeMany start vs).leaf dflt i
    rw [hleaf i hi, Ideal.leaf_writeMany]
    unfold Ideal.overlay
    rw [h.leaves i hi]
  · intro i hi
    show _ ↔ ((s.writeMany start vs).live.lookup i).getD false = false
    rw [hfl i hi, Ideal.live_writeMany]
    split
    · simp
    · exact h.flags i hi

/-- the backends delete by `set(i, default)` and then clear the flag: `h` is the relation after that `set` -/
theorem delete (i : Nat) (hi : i < s.next)
    (h : Sim H dflt d nx fl g { s.write i dflt with next := max s.next (i + 1) }) :
    Sim H dflt d nx (fl.setIfInBounds i 0) g (s.delete dflt i) := by
  obtain ⟨hd, hn, hle, hfs, ht, hlf, hfl⟩ := h
  have hs : s.delete dflt i = { s with writes := (i, dflt) :: s.writes, live := (i, false) :: s.live } := by
    unfold Ideal.delete; rw [if_pos hi]
  rw [hs]
  refine ⟨hd, hn.trans (Nat.max_eq_left hi), hle, by rw [Array.size_setIfInBounds, hfs], ht, hlf, ?_⟩
  intro j hj
  have := hfl j hj
  change _ ↔ (List.lookup j ((i, true) :: s.live)).getD false = false at this
  show _ ↔ (List.lookup j ((i, false) :: s.live)).getD false = false
  rw [lookup_cons] at this ⊢
  rw [getElem!_setIfInBounds, hfs]
  by_cases hji : j = i
  · subst hji; simp [hj]
  · rw [if_neg hji] at this ⊢
    rw [if_neg (by omega)]
    exact this

theorem new {H : α → α → α} {dflt : α} {d : Nat} {g : Nat → Nat → α}
    (hg : ∀ l i, l ≤ d → i < 2 ^ l → g l i = Ideal.dfltAt H dflt (d - l)) :
    Sim H dflt d 0 (Array.replicate (2 ^ d) 0) g (Ideal.new d) := by
  refine ⟨rfl, rfl, Nat.zero_le _, Array.size_replicate, fun l i hl hi => ?_, fun i hi => ?_, fun i hi => ?_⟩
  · rw [hg l i (by omega) hi, hg (l + 1) _ hl (by omega), hg (l + 1) _ hl (by omega),
      show d - l = (d - (l + 1)) + 1 by omega]
    rfl
  · rw [hg d i (Nat.le_refl _) hi, Nat.sub_self]
    rfl
  · simp [Ideal.new, hi]

end Sim

end Zk.Tree
