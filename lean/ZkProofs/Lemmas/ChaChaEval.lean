import ZkModel.Keygen
import ZkProofs.Lemmas.ArrayLemmas
/-!
# The ChaCha double round in a form the kernel evaluates cheaply

`ChaCha.qr` updates an `Array` of 16 words eight times and reads it by `s[i]!`. In the kernel every
such access recomputes `size`, a `List.length` over an unevaluated stack of updates, and the 80
quarter rounds of one block cost far more than their arithmetic. `doubleRoundL` is the same double
round on a `List` of 16 words taken apart by one pattern match, with the quarter round `qr4` acting
on four words; it equals the model on every input (`doubleRound_toArray`, `iter_doubleRound`), so a
concrete block is rewritten to it and then evaluated.
-/
namespace Zk.Keygen.ChaCha

def qr4 (a b c d : UInt32) : UInt32 × UInt32 × UInt32 × UInt32 :=
  let a := a + b
  let d := rotl (d ^^^ a) 16
  let c := c + d
  let b := rotl (b ^^^ c) 12
  let a := a + b
  let d := rotl (d ^^^ a) 8
  let c := c + d
  let b := rotl (b ^^^ c) 7
  (a, b, c, d)

/-- the eight writes of `qr` at four distinct positions leave the last value written to each -/
theorem setIfInBounds_twice {α : Type} (s : Array α) {a b c d : Nat} (hab : a ≠ b) (hac : a ≠ c) (had : a ≠ d)
    (hbc : b ≠ c) (hbd : b ≠ d) (hcd : c ≠ d) (a1 d1 c1 b1 a2 d2 c2 b2 : α) :
    (((((((s.setIfInBounds a a1).setIfInBounds d d1).setIfInBounds c c1).setIfInBounds b b1).setIfInBounds a
      a2).setIfInBounds d d2).setIfInBounds c c2).setIfInBounds b b2 =
      (((s.setIfInBounds a a2).setIfInBounds b b2).setIfInBounds c c2).setIfInBounds d d2 := by
  apply Array.ext
  · simp only [Array.size_setIfInBounds]
  · intro j hj _
    simp only [Array.size_setIfInBounds] at hj
    simp only [Array.getElem_setIfInBounds, Array.size_setIfInBounds, hj]
    by_cases ha : a = j
    · subst ha
      simp only [hab.symm, hac.symm, had.symm, if_true, if_false]
    by_cases hb : b = j
    · subst hb
      simp only [hbc.symm, hbd.symm, if_true, if_false]
    by_cases hc : c = j
    · subst hc
      simp only [hb, hcd.symm, if_true, if_false]
    by_cases hd : d = j <;> simp only [ha, hb, hc, hd, if_true, if_false]

theorem qr_eq {s : Array UInt32} {a b c d : Nat} (ha : a < s.size) (hb : b < s.size) (hc : c < s.size)
    (hd : d < s.size) (hab : a ≠ b) (hac : a ≠ c) (had : a ≠ d) (hbc : b ≠ c) (hbd : b ≠ d) (hcd : c ≠ d) :
    qr s a b c d =
      let q := qr4 s[a]! s[b]! s[c]! s[d]!
      (((s.setIfInBounds a q.1).setIfInBounds b q.2.1).setIfInBounds c q.2.2.1).setIfInBounds d q.2.2.2 := by
  -- every read inside `qr` is of `s` with some of the four positions overwritten
  simp only [qr, qr4, getElem!_setIfInBounds, Array.size_setIfInBounds, ha, hb, hc, hd, hab, hac, had, hbc, hbd, hcd,
    hab.symm, hac.symm, had.symm, hbc.symm, hbd.symm, hcd.symm, and_true, if_true, if_false]
  exact setIfInBounds_twice s hab hac had hbc hbd hcd ..

/-- Four column quarter rounds, then four diagonal ones on their results; off the 16-word shape it
    defers to the model, so that `doubleRound_toArray` needs no hypothesis on the length. -/
def doubleRoundL : List UInt32 → List UInt32
  | [x0, x1, x2, x3, x4, x5, x6, x7, x8, x9, x10, x11, x12, x13, x14, x15] =>
    let q0 := qr4 x0 x4 x8 x12
    let q1 := qr4 x1 x5 x9 x13
    let q2 := qr4 x2 x6 x10 x14
    let q3 := qr4 x3 x7 x11 x15
    let r0 := qr4 q0.1 q1.2.1 q2.2.2.1 q3.2.2.2
    let r1 := qr4 q1.1 q2.2.1 q3.2.2.1 q0.2.2.2
    let r2 := qr4 q2.1 q3.2.1 q0.2.2.1 q1.2.2.2
    let r3 := qr4 q3.1 q0.2.1 q1.2.2.1 q2.2.2.2
    [r0.1, r1.1, r2.1, r3.1, r3.2.1, r0.2.1, r1.2.1, r2.2.1, r2.2.2.1, r3.2.2.1, r0.2.2.1, r1.2.2.1,
      r1.2.2.2, r2.2.2.2, r3.2.2.2, r0.2.2.2]
  | l => (doubleRound l.toArray).toList

theorem doubleRound_toArray (l : List UInt32) : doubleRound l.toArray = (doubleRoundL l).toArray := by
  unfold doubleRoundL
  split
  · -- `qr_eq` eight times from the inside out; after each, the reads and writes at literal
    -- positions of the literal list are carried out, and `qr4` is never unfolded
    simp only [doubleRound, qr_eq, List.size_toArray, List.length_cons, List.length_nil, Nat.reduceAdd, Nat.reduceLT,
      ne_eq, Nat.reduceEqDiff, not_false_eq_true,
      List.setIfInBounds_toArray, List.set_cons_succ, List.set_cons_zero,
      List.getElem!_toArray, List.getElem!_cons_succ, List.getElem!_cons_zero]
  · exact Array.toArray_toList.symm

theorem iter_doubleRound (n : Nat) (s : Array UInt32) :
    iter doubleRound n s = (iter doubleRoundL n s.toList).toArray := by
  induction n generalizing s with
  | zero => rfl
  | succ n ih =>
    rw [iter, ih, iter, show (doubleRound s).toList = doubleRoundL s.toList from
      congrArg Array.toList (doubleRound_toArray s.toList)]

end Zk.Keygen.ChaCha
