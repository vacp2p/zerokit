import ZkProofs.Lemmas.OptimalLemmas
/-!
# The persistent tree (`Pm`): the store, the state-and-result monad, a single write

The three storage writes are one counted write (`tick`) that the failure schedule may turn into an
error. `Frame` is what no pmtree operation changes. `recalculate_from` is a `Sweep` with one parent
per level (`recalcFrom_sweep`), as in the two in-memory backends; `treeSet_spec` is pmtree `set`.
-/
namespace Zk.Tree

/-! ## the state-and-result monad -/

theorem PmM.bind_apply {σ β γ : Type} (m : PmM σ β) (f : β → PmM σ γ) (s : σ) :
    (m >>= f) s = match m s with
      | (s', .ok b) => f b s'
      | (s', .err) => (s', .err)
      | (s', .panic) => (s', .panic) := rfl

theorem PmM.bind_ok {σ β γ : Type} {m : PmM σ β} {f : β → PmM σ γ} {s s' : σ} {b : β}
    (h : m s = (s', .ok b)) : (m >>= f) s = f b s' := by
  rw [PmM.bind_apply, h]

theorem PmM.bind_err {σ β γ : Type} {m : PmM σ β} {f : β → PmM σ γ} {s s' : σ}
    (h : m s = (s', .err)) : (m >>= f) s = (s', .err) := by
  rw [PmM.bind_apply, h]

namespace Pm

/-! ## in-memory fields -/

section
variable {α D : Type}

def setRoot (t : Pm α D) (v : α) : Pm α D := { t with root := v }

def setNext (t : Pm α D) (n : Nat) : Pm α D := { t with next := n }

def withFlag (t : Pm α D) (i v : Nat) : Pm α D := { t with flags := t.flags.setIfInBounds i v }

theorem setFlag_ok (t : Pm α D) (i v : Nat) (h : i < t.flags.size) :
    setFlag i v t = (t.withFlag i v, .ok ()) := by
  unfold setFlag withFlag
  rw [if_pos h]

theorem setFlags_ok (v : Nat) :
    ∀ (l : List Nat) (t : Pm α D), (∀ i ∈ l, i < t.flags.size) →
      setFlags v l t = ({ t with flags := l.foldl (fun a i => a.setIfInBounds i v) t.flags }, .ok ())
  | [], _, _ => rfl
  | i :: r, t, h => by
    rw [setFlags, PmM.bind_ok (setFlag_ok t i v (h i List.mem_cons_self))]
    exact setFlags_ok v r (t.withFlag i v) fun j hj => by
      rw [show (t.withFlag i v).flags.size = t.flags.size from Array.size_setIfInBounds]
      exact h j (List.mem_cons_of_mem _ hj)

/-! ## the store -/

def tick (t : Pm α D) (kv : D) : Pm α D :=
  { t with db := { t.db with kv := kv, calls := t.db.calls + 1 } }

theorem flush_eq (t : Pm α D) :
    flush t = if t.db.failAt = some t.db.calls then (t.tick t.db.kv, .err)
      else (t.tick t.db.kv, .ok ()) := rfl

variable [MapLike D PmKey (PmVal α)]

theorem put_eq (k : PmKey) (v : PmVal α) (t : Pm α D) :
    put k v t = if t.db.failAt = some t.db.calls then (t.tick t.db.kv, .err)
      else (t.tick (MapLike.insert t.db.kv k v), .ok ()) := rfl

theorem putBatch_eq (kvs : List (PmKey × PmVal α)) (t : Pm α D) :
    putBatch kvs t = if t.db.failAt = some t.db.calls then (t.tick t.db.kv, .err)
      else (t.tick (kvs.foldl (fun m kv => MapLike.insert m kv.1 kv.2) t.db.kv), .ok ()) := rfl

/-- the state after a successful storage write, = `t.tick (insert …)`; this form for the no-failure
    proofs, `tick` for `Spec.tick` -/
def putKv (t : Pm α D) (k : PmKey) (v : PmVal α) : Pm α D :=
  { t with db := { t.db with kv := MapLike.insert t.db.kv k v, calls := t.db.calls + 1 } }

theorem put_ok (t : Pm α D) {k : PmKey} {v : PmVal α} (h : t.db.failAt = none) :
    put k v t = (t.putKv k v, .ok ()) := by
  rw [put_eq, h, if_neg nofun]
  rfl

theorem putBatch_ok (t : Pm α D) (kvs : List (PmKey × PmVal α)) (h : t.db.failAt = none) :
    putBatch kvs t = (t.tick (kvs.foldl (fun m kv => MapLike.insert m kv.1 kv.2) t.db.kv), .ok ()) := by
  rw [putBatch_eq, h, if_neg nofun]

theorem get?_putKv [LawfulMapLike D PmKey (PmVal α)] (t : Pm α D) (k k' : PmKey) (v : PmVal α) :
    MapLike.get? (t.putKv k v).db.kv k' = if k = k' then some v else MapLike.get? t.db.kv k' :=
  LawfulMapLike.get?_insert _ _ _ _

/-! ## frames -/

structure Frame (t t' : Pm α D) : Prop where
  depth : t'.depth = t.depth
  cache : t'.cache = t.cache
  flags : t'.flags = t.flags
  metadata : t'.metadata = t.metadata
  failAt : t'.db.failAt = t.db.failAt
  depthKey : MapLike.get? t'.db.kv PmKey.depthKey = MapLike.get? t.db.kv PmKey.depthKey

theorem Frame.trans {t t' t'' : Pm α D} (h1 : Frame t t') (h2 : Frame t' t'') : Frame t t'' :=
  ⟨h2.depth.trans h1.depth, h2.cache.trans h1.cache, h2.flags.trans h1.flags,
   h2.metadata.trans h1.metadata, h2.failAt.trans h1.failAt, h2.depthKey.trans h1.depthKey⟩

theorem Frame.setRoot {t t' : Pm α D} (h : Frame t t') (v : α) : Frame t (t'.setRoot v) :=
  ⟨h.depth, h.cache, h.flags, h.metadata, h.failAt, h.depthKey⟩

theorem Frame.setNext {t t' : Pm α D} (h : Frame t t') (n : Nat) : Frame t (t'.setNext n) :=
  ⟨h.depth, h.cache, h.flags, h.metadata, h.failAt, h.depthKey⟩

theorem Frame.putKv [LawfulMapLike D PmKey (PmVal α)] (t : Pm α D) {k : PmKey} {v : PmVal α}
    (hk : k ≠ PmKey.depthKey) : Frame t (t.putKv k v) :=
  ⟨rfl, rfl, rfl, rfl, rfl, by rw [get?_putKv, if_neg hk]⟩

end

variable {α : Type} [Inhabited α] {D : Type} [MapLike D PmKey (PmVal α)]

section
-- the statements of this block take `[Inhabited α]`, the last two also `[LawfulMapLike D …]`, among
-- their instance arguments; nothing in them needs either
set_option linter.unusedSectionVars false

@[simp] theorem putKv_depth (t : Pm α D) (k v) : (t.putKv k v).depth = t.depth := rfl
@[simp] theorem putKv_next (t : Pm α D) (k v) : (t.putKv k v).next = t.next := rfl
@[simp] theorem putKv_cache (t : Pm α D) (k v) : (t.putKv k v).cache = t.cache := rfl
@[simp] theorem putKv_root (t : Pm α D) (k v) : (t.putKv k v).root = t.root := rfl
@[simp] theorem putKv_flags (t : Pm α D) (k v) : (t.putKv k v).flags = t.flags := rfl
@[simp] theorem putKv_metadata (t : Pm α D) (k v) : (t.putKv k v).metadata = t.metadata := rfl
@[simp] theorem putKv_failAt (t : Pm α D) (k v) : (t.putKv k v).db.failAt = t.db.failAt := rfl
@[simp] theorem putKv_kv (t : Pm α D) (k v) :
    (t.putKv k v).db.kv = MapLike.insert t.db.kv k v := rfl

variable [LawfulMapLike D PmKey (PmVal α)]

@[simp] theorem getElem_setNext (t : Pm α D) (n : Nat) (d i : Nat) :
    (t.setNext n).getElem d i = t.getElem d i := rfl

@[simp] theorem getElem_withFlag (t : Pm α D) (i v : Nat) (d j : Nat) :
    (t.withFlag i v).getElem d j = t.getElem d j := rfl

end

/-! ## lookups -/

theorem getElem_congr {t t' : Pm α D} {d i : Nat} (hc : t'.cache = t.cache)
    (h : MapLike.get? t'.db.kv (PmKey.node d i) = MapLike.get? t.db.kv (PmKey.node d i)) :
    t'.getElem d i = t.getElem d i := by
  unfold getElem
  rw [h, hc]

theorem getElem_of_get? {t : Pm α D} {d i : Nat} {v : α}
    (h : MapLike.get? t.db.kv (PmKey.node d i) = some (PmVal.fr v)) : t.getElem d i = v := by
  unfold getElem
  rw [h]

theorem hashCouple_eq (H : α → α → α) (t : Pm α D) (d i : Nat) :
    hashCouple H t d i = H (t.getElem d (2 * (i / 2))) (t.getElem d (2 * (i / 2) + 1)) := by
  show H _ _ = _
  rw [show i - i % 2 = 2 * (i / 2) by omega]

theorem recalcFrom_succ (H : α → α → α) (d i : Nat) (t : Pm α D) :
    recalcFrom H (d + 1) i t =
      (put (PmKey.node d (i / 2)) (PmVal.fr (hashCouple H t (d + 1) i)) >>= fun _ =>
        if d = 0 then modify (fun u => { u with root := hashCouple H t (d + 1) i })
        else recalcFrom H d (i / 2)) t := by
  rw [recalcFrom]

/-! ## lookups after a storage write -/

section
variable [LawfulMapLike D PmKey (PmVal α)]

theorem getElem_putKv_node (t : Pm α D) {d i : Nat} {v : α} (d' i' : Nat) :
    (t.putKv (PmKey.node d i) (PmVal.fr v)).getElem d' i' =
      if d = d' ∧ i = i' then v else t.getElem d' i' := by
  by_cases h : d = d' ∧ i = i'
  · rw [if_pos h, ← h.1, ← h.2]
    exact getElem_of_get? (by rw [get?_putKv, if_pos rfl])
  · rw [if_neg h]
    exact getElem_congr rfl (by rw [get?_putKv, if_neg (fun e => h (by injection e with h1 h2; exact ⟨h1, h2⟩))])

theorem getElem_putKv_other (t : Pm α D) {k : PmKey} {v : PmVal α} (hk : ∀ d i, k ≠ PmKey.node d i)
    (d' i' : Nat) : (t.putKv k v).getElem d' i' = t.getElem d' i' :=
  getElem_congr rfl (by rw [get?_putKv, if_neg (hk d' i')])

end

/-! ## the invariant after a write -/

theorem Inv.withFlags {H : α → α → α} {t : Pm α D} (h : Inv H t) {fl : Array Nat}
    (hfs : fl.size = t.flags.size) : Inv H { t with flags := fl } :=
  ⟨h.csize, hfs.trans h.fsize, h.next_le, h.depth_pos, h.nofail, h.root_eq, h.cons, h.stored_depth,
    h.stored_next⟩

theorem Inv.of_frame {H : α → α → α} {t t' : Pm α D} (hinv : Inv H t) (hfr : Frame t t')
    (htree : HashTree H t.depth t'.getElem) (hroot : t'.root = t'.getElem 0 0)
    (hle : t'.next ≤ 2 ^ t.depth)
    (hsn : MapLike.get? t'.db.kv PmKey.nextKey = some (PmVal.num t'.next)) : Inv H t' :=
  ⟨by rw [hfr.cache, hfr.depth]; exact hinv.csize, by rw [hfr.flags, hfr.depth]; exact hinv.fsize,
   by rw [hfr.depth]; exact hle, by rw [hfr.depth]; exact hinv.depth_pos,
   hfr.failAt.trans hinv.nofail, hroot, by rw [hfr.depth]; exact htree,
   by rw [hfr.depthKey, hfr.depth]; exact hinv.stored_depth, hsn⟩

/-- what pmtree `set` and `set_range` both leave behind -/
structure Wrote (H : α → α → α) (t t' : Pm α D) (start : Nat) (vs : List α) : Prop where
  inv : Inv H t'
  depth : t'.depth = t.depth
  flags : t'.flags = t.flags
  next : t'.next = max t.next (start + vs.length)
  leaves : ∀ j, j < 2 ^ t.depth → t'.getElem t.depth j = Ideal.overlay (t.getElem t.depth) start vs j

variable [LawfulMapLike D PmKey (PmVal α)]

/-! ## the default cache -/

omit [Inhabited α] [LawfulMapLike D PmKey (PmVal α)] in
theorem mkCache_eq_mkCached (H : α → α → α) (dflt : α) :
    ∀ (n : Nat) (acc : List α), mkCache H dflt n acc = Optimal.mkCached H dflt n acc
  | 0, _ => rfl
  | n+1, acc => by rw [mkCache, Optimal.mkCached, mkCache_eq_mkCached H dflt n]

omit [Inhabited α] [LawfulMapLike D PmKey (PmVal α)] in
theorem mkCache_size (H : α → α → α) (dflt : α) (n : Nat) :
    (mkCache H dflt n [dflt]).toArray.size = n + 1 :=
  List.size_toArray.trans (mkCache_eq_mkCached H dflt n _ ▸ (Optimal.mkCached_dflt H dflt n).1)

theorem mkCache_get (H : α → α → α) (dflt : α) (n l : Nat) (h : l ≤ n) :
    (mkCache H dflt n [dflt]).toArray[l]! = Ideal.dfltAt H dflt (n - l) := by
  simp [mkCache_eq_mkCached, (Optimal.mkCached_dflt H dflt n).2 l h]

/-! ## `new` -/

theorem putDefaults_spec (c : Array α) :
    ∀ (n : Nat) (t : Pm α D), t.db.failAt = none →
      ∃ db : Store D, putDefaults c n t = ({ t with db := db }, .ok ()) ∧ db.failAt = none ∧
        (∀ k, (∀ l, l < n → k ≠ PmKey.node l 0) → MapLike.get? db.kv k = MapLike.get? t.db.kv k) ∧
        ∀ l, l < n → MapLike.get? db.kv (PmKey.node l 0) = some (PmVal.fr c[l]!)
  | 0, t, hf => ⟨t.db, rfl, hf, fun _ _ => rfl, fun _ hl => absurd hl (Nat.not_lt_zero _)⟩
  | n+1, t, hf => by
    obtain ⟨db, h1, h2, h3, h4⟩ := putDefaults_spec c n (t.putKv (PmKey.node n 0) (PmVal.fr c[n]!)) hf
    refine ⟨db, ?_, h2, fun k hk => ?_, fun l hl => ?_⟩
    · rw [putDefaults, PmM.bind_ok (put_ok t hf)]
      exact h1
    · rw [h3 k fun l hl => hk l (by omega), get?_putKv, if_neg fun e => hk n (Nat.lt_succ_self n) e.symm]
    · by_cases e : l = n
      · subst e
        rw [h3 _ fun l' hl' e => by injection e; omega, get?_putKv, if_pos rfl]
      · exact h4 l (by omega)

theorem new_ok (H : α → α → α) (dflt : α) (d : Nat) (c : Array α)
    (hc : c = (mkCache H dflt d [dflt]).toArray) :
    ∃ db : Store D, Pm.new H dflt d { kv := MapLike.empty } =
        (⟨db, d, 0, c, c[0]!, Array.replicate (2 ^ d) 0, []⟩, .ok ()) ∧ db.failAt = none ∧
      MapLike.get? db.kv PmKey.depthKey = some (PmVal.num d) ∧
      MapLike.get? db.kv PmKey.nextKey = some (PmVal.num 0) ∧
      (∀ l i, (⟨db, d, 0, c, c[0]!, Array.replicate (2 ^ d) 0, []⟩ : Pm α D).getElem l i = c[l]!) ∧
      ∃ v, MapLike.get? db.kv (PmKey.node 0 0) = some (PmVal.fr v) := by
  subst hc
  let c : Array α := (mkCache H dflt d [dflt]).toArray
  let t0 : Pm α D := ⟨{ kv := MapLike.empty }, d, 0, c, c[0]!, Array.replicate (2 ^ d) 0, []⟩
  let t2 := (t0.putKv PmKey.depthKey (PmVal.num d)).putKv PmKey.nextKey (PmVal.num 0)
  -- the write of `(d, 0)` and `putDefaults c d` are `putDefaults c (d + 1)`
  obtain ⟨db, h1, h2, h3, h4⟩ := putDefaults_spec c (d + 1) t2 rfl
  have hnew : Pm.new (D := D) H dflt d { kv := MapLike.empty } = putDefaults c (d + 1) t2 := by
    simp only [Pm.new, PmM.bind_apply, put_ok]
    rfl
  refine ⟨db, hnew.trans h1, h2, ?_, ?_, fun l i => ?_, _, h4 0 (Nat.succ_pos d)⟩
  · rw [h3 _ fun _ _ => by simp, get?_putKv, if_neg (by simp), get?_putKv, if_pos rfl]
  · rw [h3 _ fun _ _ => by simp, get?_putKv, if_pos rfl]
  · by_cases e : l < d + 1 ∧ i = 0
    · rw [e.2]
      exact getElem_of_get? (h4 l e.1)
    · show (match MapLike.get? db.kv (PmKey.node l i) with
        | some (.fr v) => v
        | _ => c[l]!) = _
      rw [h3 _ fun l' hl' e' => e (by injection e' with e1 e2; exact ⟨by omega, e2⟩), get?_putKv,
        if_neg (by simp), get?_putKv, if_neg (by simp), LawfulMapLike.get?_empty]

/-! ## a single write -/

theorem sweep_putKv {H : α → α → α} {dp : Nat} {g0 : Nat → Nat → α} {lf : Nat → α} {t : Pm α D} {d i : Nat}
    (hs : Sweep H dp g0 lf t.getElem d (i / 2) (i / 2) (i / 2 + 1)) (hd : d < dp) :
    Sweep H dp g0 lf (t.putKv (PmKey.node d (i / 2)) (PmVal.fr (hashCouple H t (d + 1) i))).getElem
      d (i / 2) (i / 2 + 1) (i / 2 + 1) := by
  refine hs.step hd (Nat.le_refl _) ?_ fun m j _ hc => ?_
  · rw [getElem_putKv_node, if_pos ⟨rfl, rfl⟩, hashCouple_eq]
  · rw [getElem_putKv_node, if_neg fun e => hc ⟨e.1.symm, e.2.symm⟩]

/-- the sweep's window on every level is the one parent `i / 2` -/
theorem recalcFrom_sweep (H : α → α → α) {dp : Nat} {g0 : Nat → Nat → α} {lf : Nat → α}
    (hg0 : HashTree H dp g0) (d : Nat) :
    ∀ (i : Nat) (t : Pm α D), t.db.failAt = none → d < dp → i < 2 ^ (d + 1) →
      Sweep H dp g0 lf t.getElem d (i / 2) (i / 2) (i / 2 + 1) →
      ∃ t', recalcFrom H (d + 1) i t = (t', .ok ()) ∧ Frame t t' ∧ t'.next = t.next ∧
        HashTree H dp t'.getElem ∧ (∀ j, j < 2 ^ dp → t'.getElem dp j = lf j) ∧
        t'.root = t'.getElem 0 0 := by
  induction d with
  | zero =>
    intro i t hf hd hi hs
    let t1 := t.putKv (PmKey.node 0 (i / 2)) (PmVal.fr (hashCouple H t 1 i))
    have hs1 : Sweep H dp g0 lf t1.getElem 0 (i / 2) (i / 2 + 1) (i / 2 + 1) := sweep_putKv hs hd
    have hi0 : i / 2 = 0 := by omega
    rw [hi0] at hs1
    refine ⟨t1.setRoot (hashCouple H t 1 i), by rw [recalcFrom_succ, PmM.bind_ok (put_ok t hf), if_pos rfl]; rfl,
      (Frame.putKv t (by simp)).setRoot _, rfl, hs1.hashTree, hs1.leaves, ?_⟩
    show hashCouple H t 1 i = t1.getElem 0 0
    rw [getElem_putKv_node, if_pos ⟨rfl, hi0⟩]
  | succ d ih =>
    intro i t hf hd hi hs
    obtain ⟨t', r1, r2, r3, r4⟩ := ih (i / 2) (t.putKv (PmKey.node (d + 1) (i / 2))
      (PmVal.fr (hashCouple H t (d + 1 + 1) i))) hf (by omega) (by omega)
      ((sweep_putKv hs hd).up hg0 (by omega) (by omega))
    exact ⟨t', by rw [recalcFrom_succ, PmM.bind_ok (put_ok t hf), if_neg (Nat.succ_ne_zero d)]; exact r1,
      (Frame.putKv t (by simp)).trans r2, r3, r4⟩

theorem treeSet_spec (H : α → α → α) (t : Pm α D) (hinv : Inv H t) (key : Nat) (leaf : α)
    (hk : key < 2 ^ t.depth) :
    ∃ t', treeSet H key leaf t = (t', .ok ()) ∧ Wrote H t t' key [leaf] := by
  obtain ⟨d, hd⟩ : ∃ d, t.depth = d + 1 := ⟨t.depth - 1, by have := hinv.depth_pos; omega⟩
  let t1 := t.putKv (PmKey.node t.depth key) (PmVal.fr leaf)
  have hg1 : ∀ l j, t1.getElem l j = if t.depth = l ∧ key = j then leaf else t.getElem l j :=
    getElem_putKv_node t
  have hfr1 : Frame t t1 := Frame.putKv t (by simp)
  have hf1 : t1.db.failAt = none := hinv.nofail
  -- the written leaf is a finished level `depth`; `recalculate_from` starts one level up
  have hs : Sweep H t.depth t.getElem (t1.getElem t.depth) t1.getElem (d + 1) key (key + 1) (key + 1) := by
    rw [← hd]
    exact Sweep.init (fun m i hm _ => by rw [hg1, if_neg (by omega)])
      (fun i hc => by rw [hg1, if_neg (by omega)])
  obtain ⟨t2, r1, r2, r3, r4, r5, r6⟩ := recalcFrom_sweep H hinv.cons d key t1 hf1 (by omega)
    (by rw [← hd]; exact hk) (hs.up hinv.cons (by omega) (by omega))
  rw [← hd] at r1
  let t3 := t2.setNext (max t2.next (key + 1))
  let t4 := t3.putKv PmKey.nextKey (PmVal.num t3.next)
  have hfr4 : Frame t t4 := ((hfr1.trans r2).setNext _).trans (Frame.putKv t3 (by simp))
  have hg4 : ∀ l j, t4.getElem l j = t2.getElem l j := fun l j => getElem_putKv_other t3 (by simp) l j
  have hn4 : t4.next = max t.next (key + 1) := by
    show max t2.next (key + 1) = _
    rw [r3]; rfl
  refine ⟨t4, ?_, ?_, hfr4.depth, hfr4.flags, hn4, fun j hj => ?_⟩
  · unfold treeSet
    rw [if_neg (by unfold cap; omega), PmM.bind_ok (put_ok t hinv.nofail), PmM.bind_ok r1,
      PmM.bind_ok (show modify (fun t => { t with next := max t.next (key + 1) }) t2 = (t3, .ok ()) from rfl)]
    exact put_ok t3 (r2.failAt.trans hf1)
  · refine hinv.of_frame hfr4 (r4.congr hg4) (r6.trans (hg4 0 0).symm) ?_
      (by rw [get?_putKv, if_pos rfl]; rfl)
    have := hinv.next_le
    rw [hn4]; omega
  · rw [hg4, r5 j hj, hg1, Ideal.overlay_cons, Ideal.overlay_nil]
    by_cases hjk : key = j
    · rw [if_pos ⟨rfl, hjk⟩, if_pos hjk.symm]
    · rw [if_neg fun h => hjk h.2, if_neg fun h => hjk h.symm]

end Pm

end Zk.Tree
