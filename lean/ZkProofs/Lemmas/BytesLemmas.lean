import ZkModel.Basic
/-!
# Generic byte lemmas: `leNat` / `natLE`, slicing, reading a concatenation field by field
-/
namespace Zk

@[simp] theorem natLE_length (n v : Nat) : (natLE n v).length = n := by
  induction n generalizing v with
  | zero => rfl
  | succ n ih => simp [natLE, ih]

theorem toUInt8_toNat_lt (n : Nat) (h : n < 256) : n.toUInt8.toNat = n :=
  UInt8.toNat_ofNat_of_lt' h

theorem toUInt8_toNat_mod (v : Nat) : (v % 256).toUInt8.toNat = v % 256 :=
  toUInt8_toNat_lt _ (Nat.mod_lt _ (by decide))

theorem leNat_natLE_mod (n v : Nat) : leNat (natLE n v) = v % 256 ^ n := by
  induction n generalizing v with
  | zero => simp [natLE, leNat, Nat.mod_one]
  | succ n ih =>
    simp only [natLE, leNat, ih, toUInt8_toNat_mod]
    rw [Nat.pow_succ, Nat.mul_comm (256 ^ n) 256, Nat.mod_mul]

theorem leNat_natLE (n v : Nat) (h : v < 256 ^ n) : leNat (natLE n v) = v := by
  rw [leNat_natLE_mod, Nat.mod_eq_of_lt h]

theorem leNat_lt (bs : List UInt8) : leNat bs < 256 ^ bs.length := by
  induction bs with
  | nil => simp [leNat]
  | cons b r ih =>
    simp only [leNat, List.length_cons, Nat.pow_succ]
    have := b.toNat_lt
    omega

theorem natLE_leNat (bs : List UInt8) : natLE bs.length (leNat bs) = bs := by
  induction bs with
  | nil => rfl
  | cons b r ih =>
    rw [List.length_cons, leNat, natLE, Nat.add_mul_mod_self_left, Nat.mod_eq_of_lt b.toNat_lt,
      Nat.add_mul_div_left _ _ (by decide), Nat.div_eq_of_lt b.toNat_lt, Nat.zero_add, ih,
      Nat.toUInt8, UInt8.ofNat_toNat]

theorem P_lt : P < 256 ^ 32 := by decide +kernel

theorem two64 : (256 : Nat) ^ 8 = 2 ^ 64 := by decide +kernel

theorem leNat_natLE_u64 (v : Nat) (h : v < 2 ^ 64) : leNat (natLE 8 v) = v :=
  leNat_natLE 8 v (two64 ▸ h)

theorem slice_mid0 {α : Type} (mid post : List α) (n : Nat)
    (h2 : mid.length = n) : ((mid ++ post).drop 0).take n = mid := by
  rw [List.drop_zero, List.take_left' h2]

theorem slice_append {α : Type} (l e : List α) (a b : Nat) (h : a + b ≤ l.length) :
    ((l ++ e).drop a).take b = (l.drop a).take b := by
  rw [List.drop_append_of_le_length (by omega), List.take_append_of_le_length (by simp; omega)]

theorem slice_take {α : Type} (l : List α) (k a b : Nat) (h : a + b ≤ k) :
    ((l.take k).drop a).take b = (l.drop a).take b := by
  rw [List.drop_take, List.take_take, Nat.min_eq_left (by omega)]

theorem slice_drop {α : Type} (l : List α) (c a b : Nat) :
    ((l.drop c).drop a).take b = (l.drop (c + a)).take b := by
  rw [List.drop_drop]

theorem natLE_leNat_slice (b : List UInt8) (off n : Nat) (h : off + n ≤ b.length) :
    natLE n (leNat ((b.drop off).take n)) ++ b.drop (off + n) = b.drop off := by
  have hl : ((b.drop off).take n).length = n := by
    rw [List.length_take, List.length_drop]
    omega
  have := natLE_leNat ((b.drop off).take n)
  rw [hl] at this
  rw [this, ← List.drop_drop, List.take_append_drop]

/-! ## reading a concatenation field by field

`simp` reads a field at a fixed offset with these: it skips every field that ends at or before the
offset (`drop_append_le`) and takes the one that starts there (`List.take_left'`, or `take_len` for
the last one). -/

@[simp] theorem drop_append_le {α : Type} {a b : List α} {n : Nat} (h : a.length ≤ n) :
    (a ++ b).drop n = b.drop (n - a.length) := by
  rw [List.drop_append, List.drop_eq_nil_of_le h, List.nil_append]

@[simp] theorem take_len {α : Type} {a : List α} {n : Nat} (h : a.length = n) : a.take n = a :=
  List.take_of_length_le (Nat.le_of_eq h)

theorem drop_step {α : Type} {bs a t : List α} {off n : Nat} (h : bs.drop off = a ++ t)
    (ha : a.length = n) : bs.drop (off + n) = t := by
  rw [← List.drop_drop, h, List.drop_left' ha]

theorem flatten_const_length {α β : Type} (f : α → List β) (n : Nat) (l : List α)
    (h : ∀ a, (f a).length = n) : (l.map f).flatten.length = n * l.length := by
  induction l with
  | nil => simp
  | cons a r ih =>
    simp [ih, h, Nat.mul_succ]
    omega

end Zk
