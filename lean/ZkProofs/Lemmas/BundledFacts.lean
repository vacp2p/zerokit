import ZkProofs.Lemmas.GraphDefs
/-!
# Kernel-checked facts about the bundled graph (`ZkModel/Generated/BundledGraph.lean`)

Only this file evaluates the 23 414 generated nodes, and the obvious forms of the facts are slow in
the kernel. `nodes` is a left-nested `c0 ++ c1 ++ …`, so an element is reached through up to 58
appends: everything is evaluated on the list of chunks and carried over to `chunks.flatten`
(`nodes_eq_chunks`). A lookup in the chunk list is dominated by `List.length` of the chunks it skips:
`scanLens` checks stated lengths on its way (it has the end index of each chunk anyway) and `getAt`
uses them. A `Decidable` instance costs several times a `Nat.blt`: hence `nodeOkB`. One pass over the
nodes checks well-formedness and the chunk lengths, one pass over the signals their bound and lengths.

When `graph.bin` changes: `chunks` lists the generated chunk definitions in the order of
`def nodes := c0 ++ c1 ++ …` (replace ` ++ ` by `, ` in that line), `nodeLens` and `signalLens` are
the lengths of the node chunks and of the signal chunks `s0 …`.
-/
namespace Zk.Graph

/-! ## a long list given as a list of chunks -/

variable {α : Type}

def scan (p : Nat → α → Bool) : List α → Nat → Option Nat
  | [], i => some i
  | a :: l, i => bif p i a then scan p l (i + 1) else none

def scanLens (p : Nat → α → Bool) : List (List α) → List Nat → Nat → Bool
  | [], [], _ => true
  | c :: r, n :: ns, i => (scan p c i == some (i + n)) && scanLens p r ns (i + n)
  | _, _, _ => false

def getAt : List (List α) → List Nat → Nat → Option α
  | c :: r, n :: ns, i => if i < n then c[i]? else getAt r ns (i - n)
  | _, _, _ => none

section
variable {p : Nat → α → Bool} {q : List α → Nat → Prop}
  (hcons : ∀ a l i, p i a = true → q l (i + 1) → q (a :: l) i)
include hcons

theorem scan_sound (rest : List α) : ∀ (c : List α) (i j : Nat), scan p c i = some j → q rest j →
    q (c ++ rest) i ∧ j = i + c.length
  | [], _, _, h, hq => by cases h; exact ⟨hq, rfl⟩
  | a :: l, i, j, h, hq => by
    rw [scan] at h
    cases hp : p i a with
    | false => rw [hp] at h; cases h
    | true =>
      rw [hp] at h
      obtain ⟨h1, h2⟩ := scan_sound rest l (i + 1) j h hq
      exact ⟨hcons a _ i hp h1, by rw [List.length_cons]; omega⟩

theorem scanLens_sound (hnil : ∀ i, q [] i) : ∀ (cs : List (List α)) (lens : List Nat) (i : Nat),
    scanLens p cs lens i = true → q cs.flatten i ∧ cs.map List.length = lens
  | [], [], i, _ => ⟨hnil i, rfl⟩
  | [], _ :: _, _, h => nomatch h
  | _ :: _, [], _, h => nomatch h
  | c :: r, n :: ns, i, h => by
    simp only [scanLens, Bool.and_eq_true, beq_iff_eq] at h
    obtain ⟨h1, h2⟩ := scanLens_sound hnil r ns (i + n) h.2
    obtain ⟨g1, g2⟩ := scan_sound hcons r.flatten c i (i + n) h.1 h1
    exact ⟨g1, by rw [List.map_cons, h2, show c.length = n by omega]⟩
end

theorem getElem?_flatten_getAt : ∀ (cs : List (List α)) (i : Nat),
    cs.flatten[i]? = getAt cs (cs.map List.length) i
  | [], _ => rfl
  | c :: r, i => by
    simp only [List.flatten_cons, List.map_cons, getAt, List.getElem?_append, getElem?_flatten_getAt r]

theorem blt_eq_decide (a b : Nat) : Nat.blt a b = decide (a < b) := by
  rw [Bool.eq_iff_iff, Nat.blt_eq, decide_eq_true_iff]

def nodeOkB (k i : Nat) : Node → Bool
  | .input j => Nat.blt j k
  | .constant c => Nat.blt c P
  | .montConstant c => Nat.blt c P
  | .uno op a => Nat.blt a i && (match op with | .Neg => true | .Id => false)
  | .duo op a b => Nat.blt a i && (Nat.blt b i && (match op with | .Pow => false | _ => true))
  | .tres _ a b c => Nat.blt a i && (Nat.blt b i && Nat.blt c i)

theorem nodeOkB_eq (k i : Nat) (n : Node) : nodeOkB k i n = nodeOk k i n := by
  cases n with
  | uno op a => cases op <;> simp [nodeOkB, nodeOk, blt_eq_decide]
  | duo op a b => cases op <;> simp [nodeOkB, nodeOk, blt_eq_decide]
  | _ => simp [nodeOkB, nodeOk, blt_eq_decide, Bool.and_assoc]

def isAdd : Option Node → Bool
  | some (.duo .Add _ _) => true
  | _ => false

theorem isAdd_spec (o : Option Node) (h : isAdd o = true) : ∃ a b, o = some (.duo .Add a b) := by
  match o, h with
  | some (.duo .Add a b), _ => exact ⟨a, b, rfl⟩

/-! ## the generated lists -/

open Zk.Generated.Bundled

def chunks : List (List Node) := [c0, c1, c2, c3, c4, c5, c6, c7, c8, c9, c10, c11, c12, c13, c14, c15, c16, c17, c18, c19, c20, c21, c22, c23, c24, c25, c26, c27, c28, c29, c30, c31, c32, c33, c34, c35, c36, c37, c38, c39, c40, c41, c42, c43, c44, c45, c46, c47, c48, c49, c50, c51, c52, c53, c54, c55, c56, c57, c58]

def nodeLens : List Nat := List.replicate 58 400 ++ [214]

def signalLens : List Nat := [1000, 1000, 1000, 1000, 1000, 844]

/-- `nodes` unfolds to the left fold of `++` over `chunks`. The function applied to a chunk is written
    `fun c => c`: with `id` the kernel unfolds the chunks to compare `c58` with `id c58`. -/
theorem nodes_eq_chunks : nodes = chunks.flatten :=
  (List.foldl_append_eq_append (f := fun c => c) (l := chunks) (l' := [])).trans
    (by rw [List.map_id', List.nil_append])

theorem signals_eq_chunks : signals = [s0, s1, s2, s3, s4, s5].flatten :=
  (List.foldl_append_eq_append (f := fun c => c) (l := [s0, s1, s2, s3, s4, s5]) (l' := [])).trans
    (by rw [List.map_id', List.nil_append])

theorem chunks_scan : scanLens (nodeOkB 46) chunks nodeLens 0 = true := by decide +kernel

theorem signals_scan : scanLens (fun _ o => Nat.blt o 23414) [s0, s1, s2, s3, s4, s5] signalLens 0 = true := by
  decide +kernel

theorem bundled_inputsSize : getInputsSize chunks.flatten false 0 = 46 := by decide +kernel

theorem bundled_pos : getAt chunks nodeLens signals[0]! = some (.input 0) ∧
    getAt chunks nodeLens signals[4]! = some (.input 1) ∧ getAt chunks nodeLens signals[5]! = some (.input 2) ∧
    isAdd (getAt chunks nodeLens signals[1]!) = true ∧ isAdd (getAt chunks nodeLens signals[2]!) = true ∧
    isAdd (getAt chunks nodeLens signals[3]!) = true := by decide +kernel

end Zk.Graph
