import ZkModel.Poseidon
/-!
# Grain LFSR: the ring-buffer implementation simulates the shift-register specification
-/
namespace Zk.Grain

def Impl.Inv (l : Impl) : Prop := l.state.size = 80 ∧ l.head < 80

theorem toSpec_length (l : Impl) : (Impl.toSpec l).length = 80 := by simp [Impl.toSpec]

theorem toSpec_getD (l : Impl) (i : Nat) (hi : i < 80) :
    (Impl.toSpec l).getD i false = l.state.getD ((l.head + i) % 80) false := by
  simp [Impl.toSpec, List.getD_eq_getElem?_getD, hi]

theorem newBit_toSpec (l : Impl) (h : Impl.Inv l) :
    Spec.newBit (Impl.toSpec l) = (Impl.update l).2 := by
  simp only [Spec.newBit, Impl.update, toSpec_getD, Nat.add_zero, Nat.mod_eq_of_lt h.2, Nat.reduceLT,
    Nat.zero_lt_succ]

theorem update_inv (l : Impl) (h : Impl.Inv l) : Impl.Inv (Impl.update l).1 :=
  ⟨by simp [Impl.update, h.1], Nat.mod_lt _ (by decide)⟩

theorem toSpec_push (s : Array Bool) (h : Nat) (nb : Bool) (hs : s.size = 80) (hh : h < 80) :
    Impl.toSpec ⟨s.setIfInBounds h nb, (h + 1) % 80⟩ = (Impl.toSpec ⟨s, h⟩).drop 1 ++ [nb] := by
  apply List.ext_getElem (by simp [toSpec_length])
  intro i hi _
  rw [toSpec_length] at hi
  have hidx : ((h + 1) % 80 + i) % 80 = if i < 79 then (h + (1 + i)) % 80 else h := by split <;> omega
  simp only [Impl.toSpec, List.getElem_append, List.getElem_drop, List.getElem_map, List.getElem_range,
    List.length_drop, List.length_map, List.length_range, Array.getD_eq_getD_getElem?,
    Array.getElem?_setIfInBounds, hidx]
  split
  · rw [if_neg (by omega)]
  · simp [hs, hh]

/-! ## A simulation lifts through every sampling function -/

/-- The samplers all continue with `match … with | none => none | some (l, v) => …`; matching on an `ORel` proof
    splits both sides at once. -/
inductive ORel {α β : Type} (Q : α → β → Prop) : Option α → Option β → Prop
  | none : ORel Q none none
  | some {a b} : Q a b → ORel Q (some a) (some b)

section Sim
variable {σ₁ σ₂ : Type} (R : σ₁ → σ₂ → Prop) (u₁ : σ₁ → σ₁ × Bool) (u₂ : σ₂ → σ₂ × Bool)

def Sim : Prop := ∀ a b, R a b → R (u₁ a).1 (u₂ b).1 ∧ (u₁ a).2 = (u₂ b).2

def RelOpt {α : Type} : Option (σ₁ × α) → Option (σ₂ × α) → Prop :=
  ORel fun x y => R x.1 y.1 ∧ x.2 = y.2

variable {R u₁ u₂}

theorem nextBit_sim (hs : Sim R u₁ u₂) : ∀ (fuel : Nat) (a : σ₁) (b : σ₂), R a b →
    RelOpt R (nextBit u₁ fuel a) (nextBit u₂ fuel b)
  | 0, _, _, _ => .none
  | fuel+1, a, b, hab => by
    obtain ⟨r1, e1⟩ := hs a b hab
    obtain ⟨r2, e2⟩ := hs _ _ r1
    simp only [nextBit, e1]
    split
    · exact .some ⟨r2, e2⟩
    · exact nextBit_sim hs fuel _ _ r2

theorem getBitsNat_sim (hs : Sim R u₁ u₂) : ∀ (n : Nat) (a : σ₁) (b : σ₂) (acc : Nat), R a b →
    RelOpt R (getBitsNat u₁ n a acc) (getBitsNat u₂ n b acc)
  | 0, _, _, _, hab => .some ⟨hab, rfl⟩
  | n+1, a, b, acc, hab => by
    simp only [getBitsNat]
    match nextBit u₁ BITFUEL a, nextBit u₂ BITFUEL b, nextBit_sim hs BITFUEL a b hab with
    | _, _, .none => exact .none
    | _, _, .some (a := (_, _)) (b := (_, _)) ⟨hr, rfl⟩ => exact getBitsNat_sim hs n _ _ _ hr

theorem fieldRej_sim (hs : Sim R u₁ u₂) (nbits : Nat) : ∀ (fuel : Nat) (a : σ₁) (b : σ₂), R a b →
    RelOpt R (fieldRej u₁ nbits fuel a) (fieldRej u₂ nbits fuel b)
  | 0, _, _, _ => .none
  | fuel+1, a, b, hab => by
    simp only [fieldRej]
    match getBitsNat u₁ nbits a 0, getBitsNat u₂ nbits b 0, getBitsNat_sim hs nbits a b 0 hab with
    | _, _, .none => exact .none
    | _, _, .some (a := (a', v)) (b := (b', _)) ⟨hr, rfl⟩ =>
      show RelOpt R (if v < P then _ else _) (if v < P then _ else _)
      split
      · exact .some ⟨hr, rfl⟩
      · exact fieldRej_sim hs nbits fuel a' b' hr

theorem fieldMod_sim (hs : Sim R u₁ u₂) (nbits : Nat) (a : σ₁) (b : σ₂) (hab : R a b) :
    RelOpt R (fieldMod u₁ nbits a) (fieldMod u₂ nbits b) := by
  simp only [fieldMod]
  match getBitsNat u₁ nbits a 0, getBitsNat u₂ nbits b 0, getBitsNat_sim hs nbits a b 0 hab with
  | _, _, .none => exact .none
  | _, _, .some (a := (_, _)) (b := (_, _)) ⟨hr, rfl⟩ => exact .some ⟨hr, rfl⟩

theorem manyAux_sim {f₁ : σ₁ → Option (σ₁ × Nat)} {f₂ : σ₂ → Option (σ₂ × Nat)}
    (hf : ∀ a b, R a b → RelOpt R (f₁ a) (f₂ b)) : ∀ (n : Nat) (a : σ₁) (b : σ₂) (acc : List Nat), R a b →
    RelOpt R (manyAux f₁ n a acc) (manyAux f₂ n b acc)
  | 0, _, _, _, hab => .some ⟨hab, rfl⟩
  | n+1, a, b, acc, hab => by
    simp only [manyAux]
    match f₁ a, f₂ b, hf a b hab with
    | _, _, .none => exact .none
    | _, _, .some (a := (_, _)) (b := (_, _)) ⟨hr, rfl⟩ => exact manyAux_sim hf n _ _ _ hr

theorem many_sim {f₁ : σ₁ → Option (σ₁ × Nat)} {f₂ : σ₂ → Option (σ₂ × Nat)}
    (hf : ∀ a b, R a b → RelOpt R (f₁ a) (f₂ b)) (n : Nat) (a : σ₁) (b : σ₂) (hab : R a b) :
    RelOpt R (many f₁ n a) (many f₂ n b) := manyAux_sim hf n a b [] hab

end Sim

def RImpl (l : Impl) (s : List Bool) : Prop := Impl.Inv l ∧ Impl.toSpec l = s

theorem sim_impl_spec : Sim RImpl Impl.update Spec.step := by
  rintro a _ ⟨hinv, rfl⟩
  rw [Spec.step, newBit_toSpec a hinv]
  exact ⟨⟨update_inv a hinv, toSpec_push _ _ _ hinv.1 hinv.2⟩, rfl⟩

theorem updateN_sim : ∀ (n : Nat) (a : Impl) (b : List Bool), RImpl a b →
    RImpl (Impl.updateN n a) (Spec.stepN n b)
  | 0, _, _, h => h
  | n+1, a, b, h => updateN_sim n _ _ (sim_impl_spec a b h).1

theorem bitsBE_length (v n : Nat) : (bitsBE v n).length = n := by simp [bitsBE]

theorem initBits_length (nbits t rf rp : Nat) : (initBits nbits t rf rp).length = 80 := by
  simp [initBits, bitsBE_length]

theorem init_rel {s : List Bool} (hs : s.length = 80) : RImpl { state := s.toArray, head := 0 } s := by
  refine ⟨⟨by simpa using hs, Nat.zero_lt_succ _⟩, ?_⟩
  apply List.ext_getElem (by rw [toSpec_length, hs])
  intro i hi h2
  rw [toSpec_length] at hi
  simp [Impl.toSpec, Nat.mod_eq_of_lt hi, h2]

theorem new_rel (nbits t rf rp : Nat) : RImpl (Impl.new nbits t rf rp) (Spec.init nbits t rf rp) :=
  updateN_sim 160 _ _ (init_rel (initBits_length nbits t rf rp))

end Zk.Grain

namespace Zk.Poseidon
open Zk.Grain

variable {σ₁ σ₂ : Type} {R : σ₁ → σ₂ → Prop} {u₁ : σ₁ → σ₁ × Bool} {u₂ : σ₂ → σ₂ × Bool}

theorem skipLoop_sim (hs : Sim R u₁ u₂) (t : Nat) : ∀ (k : Nat) (a : σ₁) (b : σ₂), R a b →
    ORel R (findArkAndMds.skipLoop u₁ t k a) (findArkAndMds.skipLoop u₂ t k b)
  | 0, _, _, hab => .some hab
  | k+1, a, b, hab => by
    simp only [findArkAndMds.skipLoop]
    match many (fieldMod u₁ 254) (2 * t) a, many (fieldMod u₂ 254) (2 * t) b,
      many_sim (fieldMod_sim hs 254) (2 * t) a b hab with
    | _, _, .none => exact .none
    | _, _, .some (a := (_, _)) (b := (_, _)) ⟨hr, _⟩ => exact skipLoop_sim hs t k _ _ hr

theorem findArkAndMds_sim (hs : Sim R u₁ u₂) (a : σ₁) (b : σ₂) (hab : R a b) (t rf rp skip : Nat) :
    findArkAndMds u₁ a t rf rp skip = findArkAndMds u₂ b t rf rp skip := by
  have hmod := fun n a b (hab : R a b) => many_sim (fieldMod_sim hs 254) n a b hab
  unfold findArkAndMds
  match many (fieldRej u₁ 254 1000) ((rf + rp) * t) a, many (fieldRej u₂ 254 1000) ((rf + rp) * t) b,
    many_sim (fieldRej_sim hs 254 1000) ((rf + rp) * t) a b hab with
  | _, _, .none => rfl
  | _, _, .some (a := (a1, _)) (b := (b1, _)) ⟨hr1, rfl⟩ =>
    simp only []
    match findArkAndMds.skipLoop u₁ t skip a1, findArkAndMds.skipLoop u₂ t skip b1,
      skipLoop_sim hs t skip a1 b1 hr1 with
    | _, _, .none => rfl
    | _, _, .some (a := a2) (b := b2) hr2 =>
      simp only []
      match many (fieldMod u₁ 254) t a2, many (fieldMod u₂ 254) t b2, hmod t a2 b2 hr2 with
      | _, _, .none => rfl
      | _, _, .some (a := (a3, _)) (b := (b3, _)) ⟨hr3, rfl⟩ =>
        simp only []
        match many (fieldMod u₁ 254) t a3, many (fieldMod u₂ 254) t b3, hmod t a3 b3 hr3 with
        | _, _, .none => rfl
        | _, _, .some (a := (_, _)) (b := (_, _)) ⟨_, rfl⟩ => rfl

theorem grain_impl_eq_spec (t rf rp skip : Nat) : implParams t rf rp skip = specParams t rf rp skip :=
  findArkAndMds_sim sim_impl_spec _ _ (new_rel 254 t rf rp) t rf rp skip

end Zk.Poseidon
