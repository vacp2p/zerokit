import ZkProofs.Lemmas.ProtoDefs
import ZkProofs.Lemmas.BytesLemmas
/-!
# Proofs of the codec / untrusted-input / acceptance statements (C10, C13, C02)

The decoders are first put in closed form (one `if` whose condition says when they succeed, the
fields read at their offsets); totality, exact length and the rejection of longer and shorter inputs
are read off that form. Decoding an encoding is reading a concatenation of fields: at fixed offsets
this is left to `simp` with the lemmas of `BytesLemmas.lean`, in the witness (two fields of variable
length) the remaining input is followed from field to field with `drop_step`. The verification
entry points are not put in closed form: each gets one `Ensures` statement, from which C13 and C02
are read off.
-/
namespace Zk.Proto
open Zk.Codec Zk.Protocol Zk.Public

-- for `decide` in the non-vacuity examples of the property files
instance (w : Witness) : Decidable (CanonW w) := by
  unfold CanonW
  infer_instance

instance (v : ProofValues) : Decidable (CanonV v) := by
  unfold CanonV
  infer_instance

@[simp] theorem frToBytesLe_length (v : Nat) : (frToBytesLe v).length = 32 := natLE_length _ _

@[simp] theorem normalizeUsize_length (n : Nat) : (normalizeUsize n).length = 8 := natLE_length _ _

@[simp] theorem leNat_frToBytesLe (v : Nat) (h : v < P) : leNat (frToBytesLe v) = v :=
  leNat_natLE _ _ (Nat.lt_trans h P_lt)

@[simp] theorem leNat_normalizeUsize (n : Nat) (h : n < 2 ^ 64) : leNat (normalizeUsize n) = n :=
  leNat_natLE_u64 n h

@[simp] theorem vecFrToBytesLe_length (l : List Nat) : (vecFrToBytesLe l).length = 8 + 32 * l.length := by
  rw [vecFrToBytesLe, List.length_append, normalizeUsize_length,
    flatten_const_length _ 32 _ frToBytesLe_length]

@[simp] theorem vecU8ToBytesLe_length (l : List UInt8) : (vecU8ToBytesLe l).length = 8 + l.length := by
  rw [vecU8ToBytesLe, List.length_append, normalizeUsize_length]

theorem fr32_of_drop {bs t : List UInt8} {off v : Nat} (h : bs.drop off = frToBytesLe v ++ t)
    (hv : v < P) : fr32 bs off = v := by
  rw [fr32, h, List.take_left' (frToBytesLe_length v), leNat_frToBytesLe v hv, Nat.mod_eq_of_lt hv]

theorem fr32_drop (bs : List UInt8) (a b : Nat) : fr32 (bs.drop a) b = fr32 bs (a + b) := by
  rw [fr32, fr32, List.drop_drop]

theorem fr32_lt (bs : List UInt8) (off : Nat) : fr32 bs off < P := Nat.mod_lt _ P_pos

theorem bytesLeToFr_eq (bs : List UInt8) :
    bytesLeToFr bs = if bs.length < 32 then .panic else .ok (fr32 bs 0, 32) := rfl

theorem fr_roundtrip : FrRoundtripStmt := fun v hv =>
  ⟨frToBytesLe_length v, by
    rw [bytesLeToFr_eq, frToBytesLe_length, fr32_of_drop (t := []) (List.append_nil _).symm hv]
    rfl⟩

theorem fr_decode_canonical : FrDecodeCanonicalStmt := by
  intro bs v n h
  rw [bytesLeToFr_eq] at h
  split at h
  · cases h
  · cases h
    exact ⟨fr32_lt _ _, rfl⟩

/-! ## vectors -/

/-- the elements the loop of `bytes_le_to_vec_fr` reads -/
def frsAt (input : List UInt8) (i n : Nat) : List Nat :=
  (List.range' i n).map (fun j => fr32 input (8 + 32 * j))

theorem frsAt_length (input : List UInt8) (i n : Nat) : (frsAt input i n).length = n := by
  simp [frsAt]

theorem readFrs_ok (input : List UInt8) (n i : Nat) (acc : List Nat)
    (h : 8 + 32 * (i + n) ≤ input.length) :
    readFrs input n i acc = .ok (acc.reverse ++ frsAt input i n) := by
  induction n generalizing i acc with
  | zero => simp [readFrs, frsAt]
  | succ n ih =>
    unfold readFrs
    rw [if_neg (by omega), ih (i + 1) _ (by omega)]
    simp [frsAt, fr32, List.range'_succ]

theorem bytesLeToVecFr_eq (input : List UInt8) :
    bytesLeToVecFr input =
      if 8 + 32 * leNat (input.take 8) ≤ input.length then
        .ok (frsAt input 0 (leNat (input.take 8)), 8 + 32 * leNat (input.take 8))
      else .err := by
  unfold bytesLeToVecFr
  split
  · rw [if_neg (by omega)]
  · simp only
    split
    · rw [if_neg (by omega)]
    · rw [if_pos (by omega), readFrs_ok _ _ _ _ (by omega)]
      rfl

theorem bytesLeToVecU8_eq (input : List UInt8) :
    bytesLeToVecU8 input =
      if 8 + leNat (input.take 8) ≤ input.length then
        .ok ((input.drop 8).take (leNat (input.take 8)), 8 + leNat (input.take 8))
      else .err := by
  unfold bytesLeToVecU8
  split
  · rw [if_neg (by omega)]
  · simp only
    split
    · rw [if_neg (by omega)]
    · rw [if_pos (by omega)]

theorem frsAt_flatten (pre : List UInt8) (l : List Nat) (rest : List UInt8) (i : Nat) (hl : ∀ e ∈ l, e < P)
    (hp : pre.length = 8 + 32 * i) :
    frsAt (pre ++ ((l.map frToBytesLe).flatten ++ rest)) i l.length = l := by
  induction l generalizing pre i with
  | nil => rfl
  | cons e r ih =>
    have h1 := ih (pre ++ frToBytesLe e) (i + 1) (fun x hx => hl x (List.mem_cons_of_mem _ hx))
      (by rw [List.length_append, frToBytesLe_length, hp]; omega)
    simp only [frsAt, List.length_cons, List.range'_succ, List.map_cons, List.flatten_cons,
      List.append_assoc] at h1 ⊢
    rw [h1, fr32_of_drop (List.drop_left' hp) (hl e List.mem_cons_self)]

theorem bytesLeToVecFr_append (l : List Nat) (hl : ∀ e ∈ l, e < P) (hlen : l.length < 2 ^ 64)
    (rest : List UInt8) :
    bytesLeToVecFr (vecFrToBytesLe l ++ rest) = .ok (l, 8 + 32 * l.length) := by
  have ht : (vecFrToBytesLe l ++ rest).take 8 = normalizeUsize l.length := by
    simp [vecFrToBytesLe]
  rw [bytesLeToVecFr_eq, ht, leNat_normalizeUsize _ hlen, if_pos (by simp), vecFrToBytesLe,
    List.append_assoc, frsAt_flatten _ _ _ 0 hl (normalizeUsize_length _)]

theorem bytesLeToVecU8_append (l : List UInt8) (hlen : l.length < 2 ^ 64) (rest : List UInt8) :
    bytesLeToVecU8 (vecU8ToBytesLe l ++ rest) = .ok (l, 8 + l.length) := by
  have ht : (vecU8ToBytesLe l ++ rest).take 8 = normalizeUsize l.length := by
    simp [vecU8ToBytesLe]
  rw [bytesLeToVecU8_eq, ht, leNat_normalizeUsize _ hlen, if_pos (by simp)]
  simp [vecU8ToBytesLe]

theorem vecFr_roundtrip : VecFrRoundtripStmt := fun l hl hlen =>
  ⟨vecFrToBytesLe_length l, by simpa using bytesLeToVecFr_append l hl hlen []⟩

theorem vecU8_roundtrip : VecU8RoundtripStmt := fun l hlen => by
  simpa using bytesLeToVecU8_append l hlen []

theorem chunks8_flatten (l : List Nat) (f : Nat) (hf : l.length < f) :
    chunks8 f (l.map (natLE 8)).flatten = l.map (natLE 8) := by
  induction l generalizing f with
  | nil => cases f <;> simp [chunks8]
  | cons e r ih =>
    cases f with
    | zero => simp at hf
    | succ f =>
      have hne : (natLE 8 e ++ (r.map (natLE 8)).flatten).isEmpty = false := by
        simp [natLE]
      simp only [List.map_cons, List.flatten_cons, chunks8, hne]
      rw [List.take_left' (natLE_length _ _), List.drop_left' (natLE_length _ _),
        ih f (by simpa using hf)]
      simp

theorem vecUsize_roundtrip : VecUsizeRoundtripStmt := by
  intro l hl hlen
  unfold bytesLeToVecUsize readU64 serializeVecUsize
  have hL : (natLE 8 l.length ++ (l.map (natLE 8)).flatten).length = 8 + 8 * l.length := by
    rw [List.length_append, natLE_length, flatten_const_length _ 8 _ (natLE_length 8)]
  rw [if_neg (by omega)]
  simp only [List.take_left' (natLE_length 8 l.length), leNat_natLE_u64 _ hlen]
  split
  · next h => rw [List.eq_nil_of_length_eq_zero h]
  · rw [List.drop_left' (natLE_length _ _), chunks8_flatten _ _ (by omega), if_neg (by simp),
      List.map_map]
    exact congrArg Outcome.ok
      ((List.map_congr_left fun a ha => leNat_natLE_u64 a (hl a ha)).trans (List.map_id l))

/-! ## witness -/

theorem messageIdRangeCheck_ok (m l : Nat) : messageIdRangeCheck m l = .ok () ↔ m < l := by
  unfold messageIdRangeCheck
  split <;> simp <;> omega

/-- declared number of path elements / of direction bytes of a witness encoding; offset of `x` -/
def pathCount (bs : List UInt8) : Nat := leNat ((bs.drop 96).take 8)
def idxCount (bs : List UInt8) : Nat := leNat ((bs.drop (96 + (8 + 32 * pathCount bs))).take 8)
def xOff (bs : List UInt8) : Nat := 96 + (8 + 32 * pathCount bs) + (8 + idxCount bs)

/-- what `deserialize_witness` reads, where it reads it -/
def witnessAt (bs : List UInt8) : Witness :=
  { identitySecret := fr32 bs 0, userMessageLimit := fr32 bs 32, messageId := fr32 bs 64,
    pathElements := frsAt (bs.drop 96) 0 (pathCount bs),
    identityPathIndex := (bs.drop (96 + (8 + 32 * pathCount bs) + 8)).take (idxCount bs),
    x := fr32 bs (xOff bs), externalNullifier := fr32 bs (xOff bs + 32) }

/-- One length condition suffices: every earlier length check of `deserialize_witness` follows from
    its last one. -/
theorem deserializeWitness_eq (bs : List UInt8) :
    deserializeWitness bs =
      if fr32 bs 64 < fr32 bs 32 ∧ bs.length = xOff bs + 64 then .ok (witnessAt bs, bs.length)
      else .err := by
  have hx : xOff bs = 96 + (8 + 32 * pathCount bs) + (8 + idxCount bs) := rfl
  have e1 : leNat ((bs.drop 96).take 8) = pathCount bs := rfl
  have e2 : leNat ((bs.drop (96 + (8 + 32 * pathCount bs))).take 8) = idxCount bs := rfl
  unfold deserializeWitness messageIdRangeCheck
  simp only [bytesLeToVecFr_eq, bytesLeToVecU8_eq, List.length_drop, List.drop_drop, e1]
  by_cases h0 : bs.length < 96
  · rw [if_pos h0, if_neg (by omega)]
  by_cases h1 : fr32 bs 64 ≥ fr32 bs 32
  · rw [if_neg h0, if_pos h1]
    exact (if_neg (by omega)).symm
  by_cases h2 : ¬ 8 + 32 * pathCount bs ≤ bs.length - 96
  · rw [if_neg h0, if_neg h1, if_neg h2]
    exact (if_neg (by omega)).symm
  rw [if_neg h0, if_neg h1, if_pos (Decidable.not_not.mp h2)]
  simp only [e2]
  by_cases h3 : ¬ 8 + idxCount bs ≤ bs.length - (96 + (8 + 32 * pathCount bs))
  · rw [if_neg h3]
    exact (if_neg (by omega)).symm
  rw [if_pos (Decidable.not_not.mp h3)]
  simp only [← hx]
  by_cases h4 : bs.length - xOff bs ≠ 64
  · rw [if_pos h4, if_neg (by omega)]
  · rw [if_neg h4, if_pos (by omega), show xOff bs + 64 = bs.length by omega]
    rfl

theorem dw_ok {bs : List UInt8} {w : Witness} {n : Nat} (h : deserializeWitness bs = .ok (w, n)) :
    (fr32 bs 64 < fr32 bs 32 ∧ bs.length = xOff bs + 64) ∧ w = witnessAt bs ∧ n = bs.length := by
  rw [deserializeWitness_eq] at h
  split at h
  · next hc =>
    cases h
    exact ⟨hc, rfl, rfl⟩
  · cases h

theorem witness_decode_total : WitnessDecodeTotalStmt := by
  intro bs h
  rw [deserializeWitness_eq] at h
  split at h <;> cases h

theorem witness_exact_length : WitnessExactLengthStmt := by
  intro bs w n h
  obtain ⟨⟨hm, hl⟩, rfl, rfl⟩ := dw_ok h
  refine ⟨rfl, ?_, hm⟩
  simp only [witnessAt, frsAt_length, List.length_take, List.length_drop]
  unfold xOff at hl
  omega

theorem xOff_append (bs e : List UInt8) (h : xOff bs ≤ bs.length) : xOff (bs ++ e) = xOff bs := by
  unfold xOff at h ⊢
  have c1 : pathCount (bs ++ e) = pathCount bs := by
    unfold pathCount; rw [slice_append _ _ _ _ (by omega)]
  have c2 : idxCount (bs ++ e) = idxCount bs := by
    unfold idxCount; rw [c1, slice_append _ _ _ _ (by omega)]
  rw [c1, c2]

theorem witness_no_slack : WitnessNoSlackStmt := by
  intro bs w n h
  obtain ⟨⟨-, hl⟩, -, -⟩ := dw_ok h
  constructor
  · intro extra hne
    rw [deserializeWitness_eq, if_neg]
    rintro ⟨-, hl'⟩
    rw [xOff_append bs extra (by omega), List.length_append] at hl'
    exact hne (List.eq_nil_of_length_eq_zero (by omega))
  · intro k hk
    rw [deserializeWitness_eq, if_neg]
    rintro ⟨-, hl'⟩
    have hx := xOff_append (bs.take k) (bs.drop k) (by omega)
    rw [List.take_append_drop] at hx
    rw [List.length_take] at hl'
    omega

theorem witness_roundtrip : WitnessRoundtripStmt := by
  intro w ⟨hs, hlim, hm, hx, he, hpe, hpl, hil⟩ hlt
  unfold serializeWitness
  rw [(messageIdRangeCheck_ok _ _).mpr hlt]
  refine ⟨_, rfl, ?_⟩
  simp only [List.append_assoc]
  generalize hbs : frToBytesLe w.identitySecret ++ _ = bs
  have hlen : bs.length =
      96 + (8 + 32 * w.pathElements.length) + (8 + w.identityPathIndex.length) + 64 := by
    rw [← hbs]
    simp only [List.length_append, frToBytesLe_length, vecFrToBytesLe_length, vecU8ToBytesLe_length]
    omega
  -- what remains of the input at each offset the decoder looks at
  have d0 : bs.drop 0 = _ := hbs.symm
  have d32 := drop_step d0 (frToBytesLe_length _)
  have d64 := drop_step d32 (frToBytesLe_length _)
  have d96 := drop_step d64 (frToBytesLe_length _)
  have dIdx := drop_step d96 (vecFrToBytesLe_length _)
  have dX := drop_step dIdx (vecU8ToBytesLe_length _)
  have dE := drop_step dX (frToBytesLe_length _)
  refine ⟨hlen, ?_⟩
  unfold deserializeWitness
  rw [if_neg (by omega)]
  simp only [fr32_of_drop d0 hs, fr32_of_drop d32 hlim, fr32_of_drop d64 hm,
    (messageIdRangeCheck_ok _ _).mpr hlt, d96, bytesLeToVecFr_append _ hpe hpl, dIdx,
    bytesLeToVecU8_append _ hil, fr32_of_drop dX hx,
    fr32_of_drop (t := []) (by rw [dE, List.append_nil]) he]
  rw [if_neg (by omega), hlen]

/-! ## fixed layouts -/

@[simp] theorem serializeProofValues_length (v : ProofValues) : (serializeProofValues v).length = 160 := by
  simp [serializeProofValues]

theorem dpv_ok (bs : List UInt8) (h : 160 ≤ bs.length) :
    deserializeProofValues bs =
      .ok ({ root := fr32 bs 0, externalNullifier := fr32 bs 32, x := fr32 bs 64, y := fr32 bs 96,
             nullifier := fr32 bs 128 }, 160) := by
  unfold deserializeProofValues; rw [if_neg (by omega)]

theorem dpv_append (v : ProofValues) (hv : CanonV v) (rest : List UInt8) :
    deserializeProofValues (serializeProofValues v ++ rest) = .ok (v, 160) := by
  obtain ⟨hy, hn, hr, hx, he⟩ := hv
  rw [dpv_ok _ (by rw [List.length_append, serializeProofValues_length]; omega)]
  simp [serializeProofValues, fr32, Nat.mod_eq_of_lt, *]

theorem proofValues_roundtrip : ProofValuesRoundtripStmt := fun v hv =>
  ⟨serializeProofValues_length v, by simpa using dpv_append v hv []⟩

theorem proveInput_roundtrip : ProveInputRoundtripStmt := by
  intro h2f treeProof s i lim m e signal π hs hlim hm he hi hsl htp
  simp [proofInputsToWitness, prepareProveInput, fr32, Nat.mod_eq_of_lt, *]
  rw [if_neg (by omega), if_neg (by omega)]

/-! ## C13 — untrusted verification input -/

theorem allCanonical_iff (n : Nat) (b : List UInt8) :
    allCanonical n b = true ↔
      32 * n ≤ b.length ∧ ∀ j, j < n → leNat ((b.drop (32 * j)).take 32) < P := by
  induction n generalizing b with
  | zero => simp [allCanonical]
  | succ n ih =>
    simp only [allCanonical, Bool.and_eq_true, decide_eq_true_eq, ih, List.length_drop,
      List.drop_drop, Nat.forall_lt_succ_left, Nat.mul_zero, List.drop_zero, Nat.mul_succ,
      Nat.add_comm (32 * _) 32]
    constructor
    · rintro ⟨⟨h1, h2⟩, h3, h4⟩
      exact ⟨by omega, h2, h4⟩
    · rintro ⟨h1, h2, h3⟩
      exact ⟨⟨by omega, h2⟩, by omega, h3⟩

theorem frToBytesLe_fr32 (b : List UInt8) (off : Nat) (h : off + 32 ≤ b.length)
    (hc : leNat ((b.drop off).take 32) < P) :
    frToBytesLe (fr32 b off) ++ b.drop (off + 32) = b.drop off := by
  rw [fr32, Nat.mod_eq_of_lt hc]
  exact natLE_leNat_slice b off 32 h

theorem serialize_deserialize (b : List UInt8) (v : ProofValues) (hl : b.length = 160)
    (hc : allCanonical 5 b = true) (hd : deserializeProofValues b = .ok (v, 160)) :
    serializeProofValues v = b := by
  rw [dpv_ok _ (by omega)] at hd
  cases hd
  obtain ⟨-, k⟩ := (allCanonical_iff 5 b).mp hc
  have e4 := frToBytesLe_fr32 b 128 (by omega) (k 4 (by omega))
  rw [List.drop_of_length_le (by omega), List.append_nil] at e4
  simp only [serializeProofValues, List.append_assoc]
  rw [e4, frToBytesLe_fr32 b 96 (by omega) (k 3 (by omega)), frToBytesLe_fr32 b 64 (by omega) (k 2 (by omega)),
    frToBytesLe_fr32 b 32 (by omega) (k 1 (by omega)), frToBytesLe_fr32 b 0 (by omega) (k 0 (by omega)),
    List.drop_zero]

theorem verifyProof_ne_panic {Pr : Type} (Z : Snark Pr) (proof : Pr) (v : ProofValues) :
    verifyProof Z proof v ≠ .panic := by
  unfold verifyProof; split <;> simp

theorem verifyProof_ok {Pr : Type} (Z : Snark Pr) (proof : Pr) (v : ProofValues) (b : Bool) :
    verifyProof Z proof v = .ok b ↔ Z.verify proof (publicInputs v) = some b := by
  unfold verifyProof; split <;> simp_all

/-- `o` is not a panic, and a value it returns satisfies `Q`. Each entry point gets one statement
    of this form, so that its definition is walked once for "never panics" and for what an
    accepting answer implies. -/
inductive Ensures {α : Type} : Outcome α → (α → Prop) → Prop
  | err {Q : α → Prop} : Ensures .err Q
  | ok {Q : α → Prop} {a : α} (h : Q a) : Ensures (.ok a) Q

theorem Ensures.ne_panic {α : Type} {o : Outcome α} {Q : α → Prop} (h : Ensures o Q) :
    o ≠ .panic := by
  cases h <;> nofun

theorem Ensures.of_ok {α : Type} {o : Outcome α} {Q : α → Prop} {a : α} (h : Ensures o Q)
    (ha : o = .ok a) : Q a := by
  subst ha
  cases h
  assumption

theorem verify_ensures {Pr : Type} (Z : Snark Pr) (bs : List UInt8) :
    Ensures (verify Z bs) fun ok => ok = true →
      bs.length = 288 ∧ allCanonical 5 (bs.drop 128) = true ∧
      ∃ proof v, Z.decode (bs.take 128) = some proof ∧
        deserializeProofValues (bs.drop 128) = .ok (v, 160) ∧
        Z.verify proof (publicInputs v) = some true := by
  unfold verify
  split; · exact .err
  next hl =>
  split; · exact .ok nofun
  next hc =>
  split; · exact .err
  next proof hd =>
  -- this also rewrites the decoding in the statement, which is then closed by `rfl`
  rw [dpv_ok (bs.drop 128) (by rw [List.length_drop]; omega)]
  simp only []
  unfold verifyProof
  split
  · next b hb =>
    refine .ok fun hb' => ?_
    exact ⟨by omega, by simpa using hc, proof, _, hd, rfl, hb' ▸ hb⟩
  · exact .err

theorem verifyFront_ensures {Pr : Type} (Z : Snark Pr) (bs : List UInt8) :
    Ensures (verifyFront Z bs) fun r => ∀ b v signal, r = some (b, v, signal) →
      296 ≤ bs.length ∧ allCanonical 5 ((bs.drop 128).take 160) = true ∧
      ∃ proof, Z.decode (bs.take 128) = some proof ∧
        deserializeProofValues (bs.drop 128) = .ok (v, 160) ∧
        bs.length - 296 = leNat ((bs.drop 288).take 8) ∧ signal = bs.drop 296 ∧
        Z.verify proof (publicInputs v) = some b := by
  unfold verifyFront
  split; · exact .err
  next hl =>
  split; · exact .ok nofun
  next hc =>
  split; · exact .err
  next proof hd =>
  rw [dpv_ok (bs.drop 128) (by rw [List.length_drop]; omega)]
  simp only []
  split; · exact .err
  next hs =>
  split
  · next b hb =>
    refine .ok ?_
    rintro _ _ _ ⟨⟩
    exact ⟨by omega, by simpa using hc, proof, hd, rfl, by omega,
      take_len (by rw [List.length_drop]; omega), (verifyProof_ok _ _ _ _).mp hb⟩
  · exact .err
  · next h => exact absurd h (verifyProof_ne_panic _ _ _)

theorem verifyFront_none {Pr : Type} (Z : Snark Pr) (bs : List UInt8)
    (h : allCanonical 5 ((bs.drop 128).take 160) = false) :
    verifyFront Z bs = .err ∨ verifyFront Z bs = .ok none := by
  unfold verifyFront
  split
  · exact Or.inl rfl
  · rw [h]; exact Or.inr rfl

theorem verifyRln_ensures {Pr : Type} (Z : Snark Pr) (h2f : List UInt8 → Nat) (root : Nat)
    (bs : List UInt8) :
    Ensures (verifyRlnProof Z h2f root bs) fun ok => ok = true →
      ∃ v signal, verifyFront Z bs = .ok (some (true, v, signal)) ∧ root = v.root ∧
        h2f signal = v.x := by
  unfold verifyRlnProof
  split
  · exact .ok nofun
  · next b v signal hf =>
    refine .ok fun h => ?_
    simp only [Bool.and_eq_true, decide_eq_true_eq] at h
    obtain ⟨⟨rfl, hr⟩, hx⟩ := h
    exact ⟨v, signal, hf, hr, hx⟩
  · exact .err
  · next h => exact absurd h (verifyFront_ensures Z bs).ne_panic

theorem verifyRoots_ensures {Pr : Type} (Z : Snark Pr) (h2f : List UInt8 → Nat)
    (bs rb : List UInt8) :
    Ensures (verifyWithRoots Z h2f bs rb) fun ok => ok = true →
      ∃ v signal, verifyFront Z bs = .ok (some (true, v, signal)) ∧ h2f signal = v.x ∧
        rb.length % 32 = 0 ∧
        ((parseRoots (rb.length / 32 + 1) rb).isEmpty = true ∨
          (parseRoots (rb.length / 32 + 1) rb).contains v.root = true) := by
  unfold verifyWithRoots
  split
  · exact .ok nofun
  · next b v signal hf =>
    simp only []
    split; · exact .ok nofun
    next hp =>
    split; · exact .err
    next hm =>
    simp only [Bool.not_eq_true, Bool.not_eq_false', Bool.and_eq_true, decide_eq_true_eq] at hp
    obtain ⟨rfl, hx⟩ := hp
    refine .ok fun h => ⟨v, signal, hf, hx, by omega, ?_⟩
    split at h
    · next he => exact .inl he
    · exact .inr h
  · exact .err
  · next h => exact absurd h (verifyFront_ensures Z bs).ne_panic

theorem verify_total : VerifyTotalStmt := by
  intro Pr Z h2f root bs rb
  refine ⟨(verify_ensures Z bs).ne_panic, (verifyRln_ensures Z h2f root bs).ne_panic,
    (verifyRoots_ensures Z h2f bs rb).ne_panic, ?_⟩
  unfold recoverIdSecret
  split
  · simp
  rw [dpv_ok _ (by rw [List.length_drop]; omega)]
  simp only []
  split
  · simp
  rw [dpv_ok _ (by rw [List.length_drop]; omega)]
  simp only []
  split
  · split
    · simp
    · simp
    · next h =>
      unfold computeIdSecret at h
      split at h <;> cases h
  · simp

theorem accepted_canonical : AcceptedCanonicalStmt := by
  intro Pr Z h2f root bs rb
  refine ⟨fun h => ((verify_ensures Z bs).of_ok h rfl).2.1, fun h => ?_, fun h => ?_⟩
  · obtain ⟨v, signal, hf, -, -⟩ := (verifyRln_ensures Z h2f root bs).of_ok h rfl
    exact ((verifyFront_ensures Z bs).of_ok hf _ _ _ rfl).2.1
  · obtain ⟨v, signal, hf, -, -, -⟩ := (verifyRoots_ensures Z h2f bs rb).of_ok h rfl
    exact ((verifyFront_ensures Z bs).of_ok hf _ _ _ rfl).2.1

theorem alias_rejected : AliasRejectedStmt := by
  intro Pr Z h2f root bs rb j hj hge
  have key1 : allCanonical 5 (bs.drop 128) = true → False := by
    intro hc
    have := ((allCanonical_iff 5 _).mp hc).2 j hj
    rw [List.drop_drop] at this
    omega
  have key2 : allCanonical 5 ((bs.drop 128).take 160) = true → False := by
    intro hc
    have := ((allCanonical_iff 5 _).mp hc).2 j hj
    rw [slice_take _ _ _ _ (by omega), List.drop_drop] at this
    omega
  have ac := accepted_canonical Z h2f root bs rb
  exact ⟨fun h => key1 (ac.1 h), fun h => key2 (ac.2.1 h), fun h => key2 (ac.2.2 h)⟩

theorem unique_encoding : UniqueEncodingStmt := fun b1 b2 v h1 h2 c1 c2 d1 d2 =>
  (serialize_deserialize b1 v h1 c1 d1).symm.trans (serialize_deserialize b2 v h2 c2 d2)

/-! ## C02 — what acceptance implies -/

theorem verify_sound : VerifySoundStmt := by
  intro Pr Z bs h
  obtain ⟨hl, -, proof, v, hd, hv, hz⟩ := (verify_ensures Z bs).of_ok h rfl
  exact ⟨proof, v, hl, hd, hv, hz⟩

theorem bs_split (bs : List UInt8) (h : 296 ≤ bs.length)
    (hs : bs.length - 296 = leNat ((bs.drop 288).take 8)) :
    bs = bs.take 288 ++ natLE 8 (bs.drop 296).length ++ bs.drop 296 ∧ (bs.drop 296).length < 2 ^ 64 := by
  have hlt := leNat_lt ((bs.drop 288).take 8)
  rw [List.length_take, List.length_drop, Nat.min_eq_left (by omega), two64] at hlt
  rw [List.length_drop, hs, List.append_assoc, natLE_leNat_slice bs 288 8 (by omega),
    List.take_append_drop]
  exact ⟨rfl, hlt⟩

theorem verifyRln_sound : VerifyRlnSoundStmt := by
  intro Pr Z h2f root bs h
  obtain ⟨v, signal, hf, hr, hx⟩ := (verifyRln_ensures Z h2f root bs).of_ok h rfl
  obtain ⟨hl, -, proof, hd, hv, hs, hsig, hz⟩ := (verifyFront_ensures Z bs).of_ok hf _ _ _ rfl
  obtain ⟨e1, e2⟩ := bs_split bs hl hs
  subst hsig
  exact ⟨proof, v, _, hd, hv, e1, e2, hz, hx.symm, hr.symm⟩

theorem parseRoots_mem {f : Nat} {bs : List UInt8} {r : Nat} (h : r ∈ parseRoots f bs) :
    ∃ k, k < bs.length / 32 ∧ leNat ((bs.drop (32 * k)).take 32) % P = r := by
  induction f generalizing bs with
  | zero => simp [parseRoots] at h
  | succ f ih =>
    unfold parseRoots at h
    split at h
    · simp at h
    · rcases List.mem_cons.mp h with h | h
      · exact ⟨0, by omega, by simpa using h.symm⟩
      · obtain ⟨k, hk, he⟩ := ih h
        rw [List.length_drop] at hk
        rw [List.drop_drop] at he
        exact ⟨k + 1, by omega, by rwa [show 32 * (k + 1) = 32 + 32 * k by omega]⟩

theorem verifyRoots_sound : VerifyRootsSoundStmt := by
  intro Pr Z h2f bs rb h
  obtain ⟨v, signal, hf, hx, hm, hroots⟩ := (verifyRoots_ensures Z h2f bs rb).of_ok h rfl
  obtain ⟨hl, -, proof, hd, hv, hs, hsig, hz⟩ := (verifyFront_ensures Z bs).of_ok hf _ _ _ rfl
  obtain ⟨e1, -⟩ := bs_split bs hl hs
  subst hsig
  refine ⟨proof, v, _, hd, hv, e1, hz, hx.symm, hm, ?_⟩
  rcases hroots with he | hc
  · left
    unfold parseRoots at he
    split at he
    · apply List.eq_nil_of_length_eq_zero; omega
    · simp at he
  · right
    exact parseRoots_mem (by simpa using hc)

theorem allCanonical_spv (v : ProofValues) (hv : CanonV v) :
    allCanonical 5 (serializeProofValues v) = true := by
  obtain ⟨hy, hn, hr, hx, he⟩ := hv
  simp [allCanonical, serializeProofValues, *]

theorem verifyFront_prepared {Pr : Type} (Z : Snark Pr) {pb signal : List UInt8} {v : ProofValues}
    {proof : Pr} {b : Bool} (hpb : pb.length = 128) (hv : CanonV v) (hsl : signal.length < 2 ^ 64)
    (hd : Z.decode pb = some proof) (hz : Z.verify proof (publicInputs v) = some b) :
    verifyFront Z (prepareVerifyInput (pb ++ serializeProofValues v) signal) =
      .ok (some (b, v, signal)) := by
  simp [verifyFront, prepareVerifyInput, verifyProof, allCanonical_spv, dpv_append, *]
  rw [if_neg (by omega), if_pos (by omega)]

theorem verifyRln_exact : VerifyRlnExactStmt := by
  intro Pr Z h2f root pb v signal proof b hpb hv hsl hd hz
  unfold verifyRlnProof
  rw [verifyFront_prepared Z hpb hv hsl hd hz]

theorem parseRoots_flatten (roots : List Nat) (f : Nat) (hf : roots.length < f)
    (hr : ∀ r ∈ roots, r < P) : parseRoots f (roots.map frToBytesLe).flatten = roots := by
  induction roots generalizing f with
  | nil => cases f <;> simp [parseRoots]
  | cons e r ih =>
    cases f with
    | zero => simp at hf
    | succ f =>
      simp only [List.map_cons, List.flatten_cons, parseRoots]
      rw [if_neg (by rw [List.length_append, frToBytesLe_length]; omega),
        List.take_left' (frToBytesLe_length e), List.drop_left' (frToBytesLe_length e),
        leNat_frToBytesLe e (hr e List.mem_cons_self), Nat.mod_eq_of_lt (hr e List.mem_cons_self),
        ih f (by simpa using hf) (fun x hx => hr x (List.mem_cons_of_mem _ hx))]

theorem verifyRoots_exact : VerifyRootsExactStmt := by
  intro Pr Z h2f roots pb v signal proof b hpb hv hsl hd hz hr
  unfold verifyWithRoots
  rw [verifyFront_prepared Z hpb hv hsl hd hz]
  simp only []
  rw [flatten_const_length _ 32 _ frToBytesLe_length, Nat.mul_mod_right, Nat.mul_div_cancel_left _ (by decide),
    parseRoots_flatten roots _ (Nat.lt_succ_self _) hr]
  cases b && decide (h2f signal = v.x) <;> cases roots.isEmpty <;> simp

/-! ## exact forms used by `ProtoProofs.lean` -/

theorem verify_exact {Pr : Type} (Z : Snark Pr) {pb : List UInt8} {v : ProofValues} {proof : Pr}
    {b : Bool} (hp : pb.length = 128) (hv : CanonV v)
    (hdec : Z.decode pb = some proof) (hver : Z.verify proof (publicInputs v) = some b) :
    verify Z (pb ++ serializeProofValues v) = .ok b := by
  simp [verify, verifyProof, allCanonical_spv, hp, hv, hdec, hver, (proofValues_roundtrip v hv).2]

theorem recover_eq {v v' : ProofValues} {pb pb' : List UInt8}
    (hv : CanonV v) (hv' : CanonV v') (hp : pb.length = 128) (hp' : pb'.length = 128) :
    recoverIdSecret (pb ++ serializeProofValues v) (pb' ++ serializeProofValues v') =
      if v.externalNullifier = v'.externalNullifier then
        match computeIdSecret v.x v.y v'.x v'.y with
        | .ok s => .ok (frToBytesLe s)
        | .err => .err
        | .panic => .panic
      else .ok [] := by
  simp [recoverIdSecret, hp, hp', (proofValues_roundtrip v hv).2, (proofValues_roundtrip v' hv').2]
  -- what is left differs only in the `match` (the model's and this statement's are two constants)
  rfl

end Zk.Proto
