import ZkModel.Keccak
/-!
# Keccak-f[1600] in a form the kernel evaluates cheaply

`Keccak.round` keeps the state in an `Array` and reads it by `a[i]!`. In the kernel every such access
recomputes `size`, a `List.length` over a list that is itself an unevaluated stack of updates, and
one permutation costs more than the rest of a reference vector together. `roundL` is the same round
on a `List` of 25 lanes taken apart by one pattern match, with no indexing at all; it equals the
model on every input (`round_toArray`, `f1600_eq`), so a concrete digest is rewritten to it and then
evaluated.
-/
namespace Zk.Keccak

def chiRow (b0 b1 b2 b3 b4 : UInt64) : List UInt64 :=
  [b0 ^^^ (~~~b1 &&& b2), b1 ^^^ (~~~b2 &&& b3), b2 ^^^ (~~~b3 &&& b4), b3 ^^^ (~~~b4 &&& b0), b4 ^^^ (~~~b0 &&& b1)]

def iota (rc : UInt64) : List UInt64 → List UInt64
  | [] => []
  | a0 :: a => (a0 ^^^ rc) :: a

/-- The lanes `a[x + 5y]` as a list of 25; off that shape it defers to the model, so that
    `round_toArray` needs no hypothesis on the length. -/
def roundL (a : List UInt64) (rc : UInt64) : List UInt64 :=
  match a with
  | [a0, a1, a2, a3, a4, a5, a6, a7, a8, a9, a10, a11, a12, a13, a14, a15, a16, a17, a18, a19, a20, a21, a22, a23, a24] =>
    let c0 := a0 ^^^ a5 ^^^ a10 ^^^ a15 ^^^ a20
    let c1 := a1 ^^^ a6 ^^^ a11 ^^^ a16 ^^^ a21
    let c2 := a2 ^^^ a7 ^^^ a12 ^^^ a17 ^^^ a22
    let c3 := a3 ^^^ a8 ^^^ a13 ^^^ a18 ^^^ a23
    let c4 := a4 ^^^ a9 ^^^ a14 ^^^ a19 ^^^ a24
    let d0 := c4 ^^^ rotl c1 1
    let d1 := c0 ^^^ rotl c2 1
    let d2 := c1 ^^^ rotl c3 1
    let d3 := c2 ^^^ rotl c4 1
    let d4 := c3 ^^^ rotl c0 1
    -- ρ and π: lane `(x, y)`, rotated by `ROT[x + 5y]`, moves to `(y, 2x + 3y)`; written out by
    -- destination, one row per line, and χ applied to each row
    iota rc <|
      chiRow (rotl (a0 ^^^ d0) 0) (rotl (a6 ^^^ d1) 44) (rotl (a12 ^^^ d2) 43) (rotl (a18 ^^^ d3) 21) (rotl (a24 ^^^ d4) 14) ++
      chiRow (rotl (a3 ^^^ d3) 28) (rotl (a9 ^^^ d4) 20) (rotl (a10 ^^^ d0) 3) (rotl (a16 ^^^ d1) 45) (rotl (a22 ^^^ d2) 61) ++
      chiRow (rotl (a1 ^^^ d1) 1) (rotl (a7 ^^^ d2) 6) (rotl (a13 ^^^ d3) 25) (rotl (a19 ^^^ d4) 8) (rotl (a20 ^^^ d0) 18) ++
      chiRow (rotl (a4 ^^^ d4) 27) (rotl (a5 ^^^ d0) 36) (rotl (a11 ^^^ d1) 10) (rotl (a17 ^^^ d2) 15) (rotl (a23 ^^^ d3) 56) ++
      chiRow (rotl (a2 ^^^ d2) 62) (rotl (a8 ^^^ d3) 55) (rotl (a14 ^^^ d4) 39) (rotl (a15 ^^^ d0) 41) (rotl (a21 ^^^ d1) 2)
  | _ => (round a.toArray rc).toList

def f1600L (a : List UInt64) : List UInt64 := RC.toList.foldl roundL a

theorem round_toArray (a : List UInt64) (rc : UInt64) : round a.toArray rc = (roundL a rc).toArray := by
  have r5 : Array.range 5 = #[0, 1, 2, 3, 4] := rfl
  have r25 : Array.range 25 =
      #[0, 1, 2, 3, 4, 5, 6, 7, 8, 9, 10, 11, 12, 13, 14, 15, 16, 17, 18, 19, 20, 21, 22, 23, 24] := rfl
  have z25 : Array.replicate 25 (0 : UInt64) =
      #[0, 0, 0, 0, 0, 0, 0, 0, 0, 0, 0, 0, 0, 0, 0, 0, 0, 0, 0, 0, 0, 0, 0, 0, 0] := rfl
  unfold roundL
  split
  · -- on 25 named lanes the model's maps, loops and updates run symbolically: ranges become
    -- literals, `for` becomes `foldl` over them, and every read or write walks a literal list
    simp only [round, chiRow, iota, r5, r25, z25, ROT, List.map_toArray, List.map_cons, List.map_nil,
      List.getElem!_toArray, List.getElem!_cons_succ, List.getElem!_cons_zero,
      Nat.reduceAdd, Nat.reduceMod, Nat.reduceDiv, Nat.reduceMul,
      Std.Legacy.Range.forIn_eq_forIn_range', Std.Legacy.Range.size, List.forIn_pure_yield_eq_foldl,
      Nat.sub_zero, Nat.add_one_sub_one, Nat.div_one, bind_pure_comp, map_pure, Id.run_pure,
      List.range'_succ, List.range'_zero, List.foldl_cons, List.foldl_nil,
      Array.set!_eq_setIfInBounds, List.setIfInBounds_toArray, List.set_cons_succ, List.set_cons_zero,
      List.cons_append, List.nil_append]
  · rfl

theorem f1600_eq (a : Array UInt64) : f1600 a = (f1600L a.toList).toArray := by
  unfold f1600 f1600L
  rw [← Array.foldl_toList]
  generalize RC.toList = rcs
  induction rcs generalizing a with
  | nil => rfl
  | cons rc rcs ih => exact (ih (round a rc)).trans (by rw [List.foldl_cons, round_toArray a.toList])

end Zk.Keccak
