import ZkProofs.Lemmas.NodeFn
/-!
# Facts about the ideal Merkle tree (C07, C15 and the executable short cuts of the driver)

The five `Ideal.…Stmt`s of `TreeDefs.lean`. Binding and direction flip are one fact read
contrapositively: without a collision of `H`, the recomputed root determines leaf and siblings
(`computeRoot_inj`). `opening_of_obs` is the completeness statement in the form every backend's
observables feed.
-/
namespace Zk.Tree

variable {α : Type}

/-! ## `nodeFast` -/

theorem Ideal.nodeAux_congr (H : α → α → α) (lf lf' : Nat → α) :
    ∀ (k i : Nat), (∀ j, i * 2 ^ k ≤ j → j < (i + 1) * 2 ^ k → lf j = lf' j) →
      Ideal.nodeAux H lf k i = Ideal.nodeAux H lf' k i
  | 0, i, h => h i (by simp) (by simp)
  | k+1, i, h => by
    obtain ⟨e1, e2, e3, e4⟩ := block_succ k i
    simp only [Ideal.nodeAux]
    rw [Ideal.nodeAux_congr H lf lf' k (2 * i) fun j h1 h2 => h j (by omega) (by omega),
      Ideal.nodeAux_congr H lf lf' k (2 * i + 1) fun j h1 h2 => h j (by omega) (by omega)]

theorem Ideal.nodeAux_const (H : α → α → α) (dflt : α) :
    ∀ k i, Ideal.nodeAux H (fun _ => dflt) k i = Ideal.dfltAt H dflt k
  | 0, _ => rfl
  | k+1, i => by simp only [Ideal.nodeAux, Ideal.dfltAt, Ideal.nodeAux_const H dflt k]

theorem Ideal.nodeFastAux_eq (H : α → α → α) (dflt : α) (t : Ideal α) :
    ∀ (k i : Nat), Ideal.nodeFastAux H dflt t k i = Ideal.nodeAux H (t.leaf dflt) k i
  | 0, i => by simp [Ideal.nodeFastAux, Ideal.nodeAux]
  | k+1, i => by
    unfold Ideal.nodeFastAux
    split
    · rw [Ideal.nodeFastAux_eq H dflt t k, Ideal.nodeFastAux_eq H dflt t k]; rfl
    · rename_i hany
      refine ((Ideal.nodeAux_congr H _ (fun _ => dflt) (k + 1) i fun j h1 h2 => ?_).trans
        (Ideal.nodeAux_const H dflt (k + 1) i)).symm
      unfold Ideal.leaf
      rw [List.lookup_eq_none_iff.mpr]
      intro w hw
      rw [bne_iff_ne]
      intro hj
      apply hany
      rw [List.any_eq_true]
      exact ⟨w, hw, by simp; omega⟩

theorem Ideal.nodeFast_eq [Inhabited α] (H : α → α → α) (dflt : α) : Ideal.NodeFastStmt H dflt := by
  intro t l i
  exact Ideal.nodeFastAux_eq H dflt t _ i

/-! ## `levels` -/

theorem Ideal.pairUp_map_range (H : α → α → α) :
    ∀ (m : Nat) (f : Nat → α), Ideal.pairUp H ((List.range (2 * m)).map f) =
      (List.range m).map (fun i => H (f (2 * i)) (f (2 * i + 1)))
  | 0, f => by simp [Ideal.pairUp]
  | m+1, f => by
    have h2 : 2 * (m + 1) = 2 * m + 1 + 1 := by omega
    rw [h2, List.range_succ_eq_map, List.range_succ_eq_map, List.range_succ_eq_map (n := m)]
    simp only [List.map_cons, List.map_map, Ideal.pairUp]
    rw [Ideal.pairUp_map_range H m]
    congr 1

theorem Ideal.levelsAux_getD (H : α → α → α) (lf : Nat → α) :
    ∀ (n j k : Nat), k ≤ n →
      (Ideal.levelsAux H n ((List.range (2 ^ n)).map (Ideal.nodeAux H lf j))).getD k [] =
        (List.range (2 ^ (n - k))).map (Ideal.nodeAux H lf (j + k))
  | 0, j, k, hk => by
    have : k = 0 := by omega
    subst this
    simp [Ideal.levelsAux]
  | n+1, j, 0, _ => by simp [Ideal.levelsAux]
  | n+1, j, k+1, hk => by
    simp only [Ideal.levelsAux, List.getD_cons_succ]
    rw [Nat.pow_succ', Ideal.pairUp_map_range]
    have : (fun i => H (Ideal.nodeAux H lf j (2 * i)) (Ideal.nodeAux H lf j (2 * i + 1)))
        = Ideal.nodeAux H lf (j + 1) := by
      funext i; rfl
    rw [this, Ideal.levelsAux_getD H lf n (j + 1) k (by omega)]
    have e1 : n + 1 - (k + 1) = n - k := by omega
    have e2 : j + 1 + k = j + (k + 1) := by omega
    rw [e1, e2]

theorem Ideal.levels_eq [Inhabited α] (H : α → α → α) (dflt : α) : Ideal.LevelsStmt H dflt := by
  intro t k i hk hi
  unfold Ideal.levels Ideal.cap
  have h0 : t.leaf dflt = Ideal.nodeAux H (t.leaf dflt) 0 := by funext i; rfl
  rw [h0, Ideal.levelsAux_getD H _ t.depth 0 k hk]
  unfold Ideal.node
  have e : t.depth - (t.depth - k) = k := by omega
  rw [e, Nat.zero_add]
  simp [List.getD, hi]

/-! ## `proof` (C07 completeness) -/

theorem Ideal.proofAux_length (H : α → α → α) (dflt : α) (t : Ideal α) :
    ∀ (k l i : Nat), (Ideal.proofAux H dflt t k l i).length = k
  | 0, _, _ => rfl
  | k+1, l, i => by
    simp only [Ideal.proofAux, List.length_cons, Ideal.proofAux_length H dflt t k]

theorem Ideal.proofAux_bits (H : α → α → α) (dflt : α) (t : Ideal α) :
    ∀ (k l i : Nat), ∀ x ∈ Ideal.proofAux H dflt t k l i, x.2 = 0 ∨ x.2 = 1
  | 0, _, _ => by simp [Ideal.proofAux]
  | k+1, l, i => by
    intro x hx
    simp only [Ideal.proofAux, List.mem_cons] at hx
    rcases hx with rfl | hx
    · simp only; omega
    · exact Ideal.proofAux_bits H dflt t k _ _ x hx

theorem Ideal.proofAux_decode (H : α → α → α) (dflt : α) (t : Ideal α) :
    ∀ (k l i : Nat), i < 2 ^ k →
      (Ideal.proofAux H dflt t k l i).foldr (fun x acc => 2 * acc + x.2) 0 = i
  | 0, _, i => by
    intro h
    simp only [Ideal.proofAux, List.foldr_nil]
    simp at h; omega
  | k+1, l, i => by
    intro h
    simp only [Ideal.proofAux, List.foldr_cons]
    rw [Ideal.proofAux_decode H dflt t k (l - 1) (i / 2) (by omega)]
    omega

theorem Ideal.node_parent (H : α → α → α) (dflt : α) (t : Ideal α) {l : Nat} (h1 : 1 ≤ l)
    (h2 : l ≤ t.depth) (i : Nat) :
    (if i % 2 = 0 then H (t.node H dflt l i) (t.node H dflt l (i ^^^ 1))
      else H (t.node H dflt l (i ^^^ 1)) (t.node H dflt l i)) = t.node H dflt (l - 1) (i / 2) := by
  have hp : t.node H dflt (l - 1) (i / 2) =
      H (t.node H dflt l (2 * (i / 2))) (t.node H dflt l (2 * (i / 2) + 1)) := by
    unfold Ideal.node
    rw [show t.depth - (l - 1) = (t.depth - l) + 1 by omega]
    rfl
  rw [hp, xor_one_eq]
  split
  · rw [show 2 * (i / 2) = i by omega]
  · rw [show 2 * (i / 2) = i - 1 by omega, show i - 1 + 1 = i by omega]

theorem Ideal.computeRoot_proofAux (H : α → α → α) (dflt : α) (t : Ideal α) :
    ∀ (k l i : Nat), k ≤ l → l ≤ t.depth →
      Ideal.computeRoot H (t.node H dflt l i) (Ideal.proofAux H dflt t k l i) =
        t.node H dflt (l - k) (i / 2 ^ k)
  | 0, l, i, _, _ => by
    rw [Nat.pow_zero, Nat.div_one]
    rfl
  | k+1, l, i, hk, hl => by
    simp only [Ideal.proofAux, Ideal.computeRoot]
    rw [Ideal.node_parent H dflt t (by omega) hl,
      Ideal.computeRoot_proofAux H dflt t k (l - 1) (i / 2) (by omega) (by omega), Nat.sub_sub,
      Nat.add_comm 1 k, Nat.div_div_eq_div_mul, ← Nat.pow_succ']

theorem Ideal.proof_complete [Inhabited α] (H : α → α → α) (dflt : α) :
    Ideal.ProofCompleteStmt H dflt := by
  intro t i hi
  refine ⟨?_, ?_, ?_, ?_⟩
  · exact Ideal.proofAux_length H dflt t _ _ _
  · exact Ideal.proofAux_decode H dflt t _ _ _ hi
  · exact Ideal.proofAux_bits H dflt t _ _ _
  · have h := Ideal.computeRoot_proofAux H dflt t t.depth t.depth i (Nat.le_refl _) (Nat.le_refl _)
    rw [Ideal.node_depth] at h
    unfold Ideal.proof Ideal.root
    rw [h, Nat.sub_self, Nat.div_eq_of_lt hi]

/-- each backend has its own copy of `compute_root_from` (`Full.computeRootFrom`, `Optimal.computeRootFrom`,
    `Pm.computeRootFrom`); whatever satisfies the two equations is `computeRoot` -/
theorem Ideal.computeRoot_unique (H : α → α → α) {f : α → List (α × Nat) → α}
    (hnil : ∀ lf, f lf [] = lf)
    (hcons : ∀ lf s b r, f lf ((s, b) :: r) = f (if b = 0 then H lf s else H s lf) r) :
    ∀ (p : List (α × Nat)) (lf : α), f lf p = Ideal.computeRoot H lf p
  | [], lf => hnil lf
  | (s, b) :: r, lf => (hcons lf s b r).trans (Ideal.computeRoot_unique H hnil hcons r _)

/-- whatever reports the root, the leaf and the path of a position as `ObsStmt` says serves an
    opening of that root in the circuit's input format -/
theorem Ideal.opening_of_obs [Inhabited α] (H : α → α → α) (dflt : α) (s : Ideal α) {i : Nat}
    (hi : i < 2 ^ s.depth) {root : α} {getI : Outcome α} {proofI : Outcome (List (α × Nat))}
    (hroot : root = s.root H dflt)
    (hget : getI = if i < 2 ^ s.depth then .ok (s.leaf dflt i) else .err)
    (hproof : proofI = if i < 2 ^ s.depth then .ok (s.proof H dflt i) else .err) :
    proofI = .ok (s.proof H dflt i) ∧ getI = .ok (s.leaf dflt i) ∧
    (s.proof H dflt i).length = s.depth ∧
    (s.proof H dflt i).foldr (fun x acc => 2 * acc + x.2) 0 = i ∧
    (∀ x ∈ s.proof H dflt i, x.2 = 0 ∨ x.2 = 1) ∧
    Ideal.computeRoot H (s.leaf dflt i) (s.proof H dflt i) = root := by
  obtain ⟨hlen, hdec, hbits, hcr⟩ := Ideal.proof_complete H dflt s i hi
  rw [if_pos hi] at hget hproof
  exact ⟨hproof, hget, hlen, hdec, hbits, hcr.trans hroot.symm⟩

/-! ## binding and direction flip (C07 soundness as collision extraction) -/

def Ideal.Collision (H : α → α → α) : Prop :=
  ∃ a b c d : α, (a, b) ≠ (c, d) ∧ H a b = H c d

theorem Ideal.inj_of_not_collision {H : α → α → α} (hH : ¬Ideal.Collision H) {a b c d : α}
    (h : H a b = H c d) : a = c ∧ b = d :=
  Classical.byContradiction fun hne => hH ⟨a, b, c, d, fun e => hne (Prod.mk.inj e), h⟩

theorem Ideal.computeRoot_inj {H : α → α → α} (hH : ¬Ideal.Collision H) :
    ∀ (p p' : List (α × Nat)) (l l' : α), p.map (·.2) = p'.map (·.2) →
      Ideal.computeRoot H l p = Ideal.computeRoot H l' p' → l = l' ∧ p.map (·.1) = p'.map (·.1)
  | [], [], _, _, _, hr => ⟨hr, rfl⟩
  | [], _ :: _, _, _, hd, _ => nomatch hd
  | _ :: _, [], _, _, hd, _ => nomatch hd
  | (s, b) :: r, (s', b') :: r', l, l', hd, hr => by
    rw [List.map_cons, List.map_cons, List.cons.injEq] at hd
    obtain ⟨rfl, hd⟩ : b = b' ∧ _ := hd
    obtain ⟨hstep, hsibs⟩ := Ideal.computeRoot_inj hH r r' _ _ hd hr
    have hls : l = l' ∧ s = s' := by
      split at hstep
      · exact Ideal.inj_of_not_collision hH hstep
      · exact (Ideal.inj_of_not_collision hH hstep).symm
    exact ⟨hls.1, by rw [List.map_cons, List.map_cons, hls.2, hsibs]⟩

theorem Ideal.binding [Inhabited α] (H : α → α → α) : Ideal.BindingStmt H := by
  intro l l' p p' hd hr hne
  apply Classical.byContradiction
  intro hH
  obtain ⟨rfl, hs⟩ := Ideal.computeRoot_inj hH p p' l l' hd hr
  exact hne (by rw [hs])

theorem Ideal.computeRoot_append (H : α → α → α) :
    ∀ (p q : List (α × Nat)) (l : α),
      Ideal.computeRoot H l (p ++ q) = Ideal.computeRoot H (Ideal.computeRoot H l p) q
  | [], q, l => rfl
  | (s, b) :: r, q, l => by
    simp only [List.cons_append, Ideal.computeRoot]
    exact Ideal.computeRoot_append H r q _

theorem Ideal.dir_flip [Inhabited α] (H : α → α → α) : Ideal.DirFlipStmt H := by
  intro l pre post sib b hb hne hr
  apply Classical.byContradiction
  intro hH
  rw [Ideal.computeRoot_append, Ideal.computeRoot_append] at hr
  have hstep := (Ideal.computeRoot_inj hH post post _ _ rfl hr).1
  -- the two steps hash the same pair in opposite orders
  rcases hb with rfl | rfl
  · exact hne (Ideal.inj_of_not_collision hH hstep).1
  · exact hne (Ideal.inj_of_not_collision hH hstep).2

/-! ## `emptyIdx` (C15) -/

theorem Ideal.mem_emptyIdx (s : Ideal α) (i : Nat) :
    i ∈ s.emptyIdx ↔ i < s.next ∧ (s.live.lookup i).getD false = false := by
  simp [Ideal.emptyIdx]

theorem Ideal.emptyIdx_sorted (s : Ideal α) : s.emptyIdx.Pairwise (· < ·) :=
  List.Pairwise.filter _ List.pairwise_lt_range

end Zk.Tree
