import ZkProofs.Lemmas.IdealLemmas
import ZkProofs.Lemmas.Sweep
/-!
# The flat-array tree (`FullMerkleTree`) read through its node function

`Full.flat l i = 2^l - 1 + i` is the position of node `i` of level `l` in the heap layout and
`Full.fn a l i = a[flat l i]!` the node function of the array `a`. The first section is the
arithmetic of `flat` (children, parent, injectivity); nothing after it looks at a flat position
again: the flat walks of the model (`climb`, `proofAux`) are put in (level, index) coordinates and
`recompute` / `update_nodes` become a `Sweep` of `fn`.
-/
namespace Zk.Tree

variable {α : Type} [Inhabited α]

/-! ## Heap layout -/

namespace FullL

/-- `Full.parent` without the root case; the namespace is kept for `FullL.parent_eq` -/
def par (i : Nat) : Nat := (i + 1) / 2 - 1

theorem parent_eq (i : Nat) : Full.parent i = if i = 0 then none else some (par i) := rfl

end FullL

open FullL

namespace Full

def flat (l i : Nat) : Nat := 2 ^ l - 1 + i

def fn (a : Array α) (l i : Nat) : α := a[flat l i]!

/-- `capacity() + i - 1`, the form in which the source (and the model) addresses leaf `i` -/
theorem leafAddr_eq_flat {d i : Nat} : 2 ^ d + i - 1 = flat d i := by
  have := Nat.two_pow_pos d
  unfold flat
  omega

theorem flat_add (l i k : Nat) : flat l i + k = flat l (i + k) := Nat.add_assoc _ _ _

theorem flat_sub (l i j : Nat) : flat l j + 1 - flat l i = j + 1 - i := by
  unfold flat
  omega

theorem flat_lt {l d i : Nat} (hi : i < 2 ^ l) (hl : l < d) : flat l i < 2 ^ d - 1 := by
  have := Nat.pow_le_pow_right (show 0 < 2 by omega) (show l + 1 ≤ d from hl)
  unfold flat
  omega

theorem firstChild_flat (l i : Nat) : firstChild (flat l i) = flat (l + 1) (2 * i) := by
  have := Nat.two_pow_pos l
  unfold firstChild flat
  omega

theorem par_flat (l i : Nat) : par (flat (l + 1) i) = flat l (i / 2) := by
  have := Nat.two_pow_pos l
  unfold par flat
  omega

theorem parent_flat (l i : Nat) : Full.parent (flat (l + 1) i) = some (flat l (i / 2)) := by
  have := Nat.two_pow_pos (l + 1)
  rw [parent_eq, if_neg (by unfold flat; omega), par_flat]

theorem flat_inj {m i l p : Nat} (hi : i < 2 ^ m) (hp : p < 2 ^ l) (h : flat m i = flat l p) :
    m = l ∧ i = p := by
  have key : ∀ {a b x y : Nat}, a < b → x < 2 ^ a → flat a x < flat b y := fun hab hx =>
    Nat.lt_of_lt_of_le (flat_lt hx hab) (Nat.le_add_right _ _)
  rcases Nat.lt_trichotomy m l with c | c | c
  · exact absurd h (Nat.ne_of_lt (key c hi))
  · subst c
    exact ⟨rfl, Nat.add_left_cancel h⟩
  · exact absurd h.symm (Nat.ne_of_lt (key c hp))

theorem flat_decomp (d j : Nat) (hj : j < 2 ^ d - 1) : ∃ l i, l < d ∧ i < 2 ^ l ∧ j = flat l i := by
  refine ⟨(j + 1).log2, j + 1 - 2 ^ (j + 1).log2, ?_, ?_, ?_⟩
  · rw [Nat.log2_lt (by omega)]; omega
  · have := @Nat.lt_log2_self (j + 1)
    omega
  · have := @Nat.log2_self_le (j + 1) (by omega)
    have := Nat.two_pow_pos (j + 1).log2
    unfold flat
    omega

theorem level_flat {d i : Nat} (h : i < 2 ^ d) : Full.level (flat d i) = d := by
  unfold Full.level flat
  rw [Nat.log2_eq_iff (by omega)]
  omega

/-- the left side is `Full.Inv.cons` -/
theorem hashTree_fn {H : α → α → α} {d : Nat} {a : Array α} :
    (∀ j, j < 2 ^ d - 1 → a[j]! = H a[2 * j + 1]! a[2 * j + 2]!) ↔ HashTree H d (fn a) := by
  have e : ∀ l i, 2 * flat l i + 1 = flat (l + 1) (2 * i) ∧ 2 * flat l i + 2 = flat (l + 1) (2 * i + 1) :=
    fun l i => ⟨firstChild_flat l i, by rw [← flat_add, ← firstChild_flat]; rfl⟩
  constructor
  · intro h l i hl hi
    unfold fn
    rw [h _ (flat_lt hi hl), (e l i).1, (e l i).2]
  · intro h j hj
    obtain ⟨l, i, hl, hi, rfl⟩ := flat_decomp d j hj
    rw [(e l i).1, (e l i).2]
    exact h l i hl hi

theorem fn_set (a : Array α) {l p : Nat} (v : α) (hp : p < 2 ^ l) (hsz : flat l p < a.size)
    {m i : Nat} (hi : i < 2 ^ m) :
    fn (a.setIfInBounds (flat l p) v) m i = if m = l ∧ i = p then v else fn a m i := by
  unfold fn
  rw [getElem!_setIfInBounds]
  by_cases c : m = l ∧ i = p
  · rw [if_pos c, if_pos ⟨by rw [c.1, c.2], hsz⟩]
  · rw [if_neg c, if_neg (fun e => c (flat_inj hi hp e.1.symm))]

/-! ## `recompute` and `update_nodes` -/

theorem recompute_size (H : α → α → α) (a : Array α) (ps n : Nat) :
    (Full.recompute H a ps n).size = a.size := by
  induction n with
  | zero => rfl
  | succ n ih => rw [Full.recompute, Array.size_setIfInBounds, ih]

theorem updateNodesAux_size (H : α → α → α) :
    ∀ (f : Nat) (a : Array α) (s e : Nat), (Full.updateNodesAux H f a s e).size = a.size
  | 0, _, _, _ => rfl
  | f+1, a, s, e => by
    unfold Full.updateNodesAux
    split
    · rw [updateNodesAux_size H f, recompute_size]
    · rfl

theorem recompute_sweep {H : α → α → α} {d : Nat} {g0 : Nat → Nat → α} {lf : Nat → α} {l lo hi : Nat}
    (hl : l < d) : ∀ (n : Nat) (a : Array α) (p : Nat), lo + n = p → p ≤ 2 ^ l →
      2 ^ (d + 1) - 1 ≤ a.size → Sweep H d g0 lf (fn a) l lo lo hi →
      Sweep H d g0 lf (fn (Full.recompute H a (flat l lo) n)) l lo p hi
  | 0, a, _, rfl, _, _, h => h
  | n+1, a, _, rfl, hp, hsz, h => by
    have hin : flat l (lo + n) < (Full.recompute H a (flat l lo) n).size := by
      rw [recompute_size]
      exact Nat.lt_of_lt_of_le (flat_lt (by omega) (Nat.lt_succ_of_lt hl)) hsz
    rw [Full.recompute, flat_add]
    refine (recompute_sweep hl n a (lo + n) rfl (by omega) hsz h).step hl (Nat.le_add_right _ _) ?_ ?_
    · rw [fn_set _ _ (by omega) hin (by omega), if_pos ⟨rfl, rfl⟩, firstChild_flat, flat_add]
      rfl
    · intro m i hi hc
      rw [fn_set _ _ (by omega) hin hi, if_neg hc]

theorem updateNodesAux_sweep {H : α → α → α} {d : Nat} {g0 : Nat → Nat → α} {lf : Nat → α}
    (hg0 : HashTree H d g0) :
    ∀ (l f : Nat) (a : Array α) (lo e : Nat), l ≤ d → l < f → lo ≤ e → e < 2 ^ l →
      2 ^ (d + 1) - 1 ≤ a.size → Sweep H d g0 lf (fn a) l lo (e + 1) (e + 1) →
      HashTree H d (fn (Full.updateNodesAux H f a (flat l lo) (flat l e))) ∧
      ∀ i, i < 2 ^ d → fn (Full.updateNodesAux H f a (flat l lo) (flat l e)) d i = lf i
  | 0, f+1, a, lo, e, _, _, hlo, he, _, h => by
    obtain rfl : e = 0 := by simpa using he
    obtain rfl : lo = 0 := Nat.le_zero.mp hlo
    exact ⟨h.hashTree, h.leaves⟩
  | l+1, f+1, a, lo, e, hl, hf, hlo, he, hsz, h => by
    have he2 : e / 2 < 2 ^ l := by omega
    rw [Full.updateNodesAux, parent_flat, parent_flat]
    dsimp only
    rw [flat_sub]
    have hr := recompute_sweep hl (e / 2 + 1 - lo / 2) a (e / 2 + 1) (by omega) he2 hsz
      (h.up hg0 (lo' := lo / 2) (hi' := e / 2 + 1) (by omega) (by omega))
    exact updateNodesAux_sweep hg0 l f _ (lo / 2) (e / 2) (Nat.le_of_succ_le hl) (Nat.lt_of_succ_lt_succ hf)
      (Nat.div_le_div_right hlo) he2 (by rw [recompute_size]; exact hsz) hr

/-! ## leaf writes and flags -/

omit [Inhabited α] in
theorem writeAt_size (a : Array α) (i : Nat) (vs : List α) : (Full.writeAt a i vs).size = a.size := by
  induction vs generalizing a i with
  | nil => rfl
  | cons v r ih => simp [Full.writeAt, ih]

theorem writeAt_get (a : Array α) (i : Nat) (vs : List α) (hsz : i + vs.length ≤ a.size) (j : Nat) :
    (Full.writeAt a i vs)[j]! = Ideal.overlay (fun k => a[k]!) i vs j := by
  induction vs generalizing a i with
  | nil => rw [Ideal.overlay_nil]; rfl
  | cons v r ih =>
    simp only [List.length_cons] at hsz
    rw [Full.writeAt, ih _ _ (by rw [Array.size_setIfInBounds]; omega), Ideal.overlay_cons]
    congr 1
    funext k
    rw [getElem!_setIfInBounds]
    by_cases h : k = i
    · subst h
      rw [if_pos ⟨rfl, by omega⟩, if_pos rfl]
    · rw [if_neg (fun c => h c.1.symm), if_neg h]

theorem markRange_eq (fl : Array Nat) (s n : Nat) :
    Full.markRange fl s n = (List.range' s n).foldl (fun a i => a.setIfInBounds i 1) fl := by
  induction n with
  | zero => rfl
  | succ n ih => rw [Full.markRange, ih, List.range'_1_concat, List.foldl_append]; rfl

theorem markRange_size (fl : Array Nat) (s n : Nat) : (Full.markRange fl s n).size = fl.size := by
  rw [markRange_eq, foldl_setIfInBounds_size (fun _ => 1)]

theorem markRange_get (fl : Array Nat) (s n j : Nat) (hj : j < fl.size) :
    (Full.markRange fl s n)[j]! = if s ≤ j ∧ j < s + n then 1 else fl[j]! := by
  rw [markRange_eq, foldl_setIfInBounds_get (fun _ => 1) _ fl hj]
  simp only [List.mem_range'_1]

/-- the range write as a whole: what `Sim.writeMany` asks of a backend -/
theorem write_update {H : α → α → α} {d : Nat} {a0 : Array α} {start : Nat} {vs : List α}
    (hsz : a0.size = 2 ^ (d + 1) - 1) (hcons : HashTree H d (fn a0))
    (hfit : start + vs.length ≤ 2 ^ d) (hne : vs ≠ []) :
    let a2 := Full.updateNodesAux H (d + 1) (Full.writeAt a0 (flat d start) vs) (flat d start)
      (flat d (start + (vs.length - 1)))
    a2.size = a0.size ∧ HashTree H d (fn a2) ∧
    ∀ i, i < 2 ^ d → fn a2 d i = Ideal.overlay (fn a0 d) start vs i := by
  have hlen : 0 < vs.length := List.length_pos_iff.mpr hne
  have hw : ∀ m i, fn (Full.writeAt a0 (flat d start) vs) m i =
      Ideal.overlay (fun k => a0[k]!) (flat d start) vs (flat m i) := fun m i =>
    writeAt_get _ _ _ (by unfold flat; omega) _
  have hleaf : ∀ i, fn (Full.writeAt a0 (flat d start) vs) d i = Ideal.overlay (fn a0 d) start vs i :=
    fun i => (hw d i).trans (Ideal.overlay_shift ..)
  have h0 : Sweep H d (fn a0) _ (fn (Full.writeAt a0 (flat d start) vs)) d start
      (start + vs.length) (start + vs.length) := Sweep.init
    (fun m i hm hi => by
      have : flat m i < flat d start := Nat.lt_of_lt_of_le (flat_lt hi hm) (Nat.le_add_right _ _)
      rw [hw, Ideal.overlay_out (.inl this)]
      rfl)
    (fun i hc => by rw [hleaf i, Ideal.overlay_out hc])
  rw [show start + vs.length = start + (vs.length - 1) + 1 by omega] at h0
  obtain ⟨htree, hlf⟩ := updateNodesAux_sweep hcons d (d + 1) _ start (start + (vs.length - 1))
    (Nat.le_refl _) (Nat.lt_succ_self _) (Nat.le_add_right _ _) (by omega) (by rw [writeAt_size]; omega) h0
  exact ⟨(updateNodesAux_size ..).trans (writeAt_size ..), htree, fun i hi => (hlf i hi).trans (hleaf i)⟩

theorem setRange_ok (H : α → α → α) (t : Full α) {start : Nat} {vs : List α}
    (hfit : start + vs.length ≤ 2 ^ t.depth) (hne : vs ≠ []) :
    Full.setRange H t start vs = .ok { t with
      nodes := Full.updateNodesAux H (t.depth + 1) (Full.writeAt t.nodes (flat t.depth start) vs)
        (flat t.depth start) (flat t.depth (start + (vs.length - 1)))
      flags := Full.markRange t.flags start vs.length
      next := max t.next (start + vs.length) } := by
  have hlen : 0 < vs.length := List.length_pos_iff.mpr hne
  unfold Full.setRange Full.updateNodes Full.cap
  dsimp only
  rw [if_neg (by omega), if_pos (by omega), leafAddr_eq_flat, flat_add, level_flat (by omega),
    level_flat (by omega), if_neg fun h => h rfl]

/-! ## observables: `climb`, `proof` -/

theorem climb_flat (k : Nat) : ∀ l i, k ≤ l → Full.climb k (flat l i) = flat (l - k) (i / 2 ^ k) := by
  induction k with
  | zero => intro l i _; rw [Nat.pow_zero, Nat.div_one]; rfl
  | succ k ih =>
    intro l i hl
    obtain ⟨l, rfl⟩ : ∃ l', l = l' + 1 := ⟨l - 1, by omega⟩
    show Full.climb k (par (flat (l + 1) i)) = _
    rw [par_flat, ih l (i / 2) (by omega), Nat.div_div_eq_div_mul, Nat.add_sub_add_right, Nat.pow_succ']

/-- the left side is one step of `Full.proofAux` -/
theorem sibling_flat (a : Array α) (l i : Nat) :
    (if flat (l + 1) i % 2 = 1 then (a[flat (l + 1) i + 1]!, 0) else (a[flat (l + 1) i - 1]!, 1)) =
      (fn a (l + 1) (i ^^^ 1), i % 2) := by
  have := Nat.two_pow_pos l
  have hpar : flat (l + 1) i % 2 = 1 - i % 2 := by unfold flat; omega
  rw [hpar, xor_one_eq]
  rcases Nat.mod_two_eq_zero_or_one i with hp | hp
  · rw [hp, if_pos rfl, if_pos rfl, flat_add]
    rfl
  · rw [hp, if_neg (by decide), if_neg (by decide),
      show flat (l + 1) i - 1 = flat (l + 1) (i - 1) by unfold flat; omega]
    rfl

theorem proofAux_flat (a : Array α) : ∀ l i, i < 2 ^ l →
    Full.proofAux a (l + 1) (flat l i) = NodeFn.path (fn a) l i
  | 0, i, hi => by
    obtain rfl : i = 0 := by simpa using hi
    rfl
  | l+1, i, hi => by
    rw [Full.proofAux, if_neg (by unfold flat; omega), sibling_flat]
    show _ :: Full.proofAux a (l + 1) (par (flat (l + 1) i)) = _
    rw [par_flat, proofAux_flat a l (i / 2) (by omega), NodeFn.path, xor_one_bit, xor_one_div]

/-! ## `new`: the level-by-level initial array -/

def lvls (f : Nat → α) (n : Nat) : List α :=
  ((List.range n).map (fun l => List.replicate (2 ^ l) (f l))).flatten

omit [Inhabited α] in
theorem lvls_succ (f : Nat → α) (n : Nat) : lvls f (n + 1) = lvls f n ++ List.replicate (2 ^ n) (f n) := by
  simp [lvls, List.range_succ]

omit [Inhabited α] in
theorem lvls_length (f : Nat → α) (n : Nat) : (lvls f n).length = 2 ^ n - 1 := by
  induction n with
  | zero => simp [lvls]
  | succ n ih =>
    rw [lvls_succ, List.length_append, ih, List.length_replicate]
    have := Nat.two_pow_pos n
    omega

omit [Inhabited α] in
theorem lvls_get (f : Nat → α) (n l i : Nat) (hl : l < n) (hi : i < 2 ^ l) :
    (lvls f n)[flat l i]? = some (f l) := by
  induction n with
  | zero => omega
  | succ n ih =>
    rw [lvls_succ, List.getElem?_append, lvls_length]
    by_cases hln : l < n
    · rw [if_pos (flat_lt hi hln)]
      exact ih hln
    · obtain rfl : l = n := by omega
      rw [if_neg (by unfold flat; omega), show flat l i - (2 ^ l - 1) = i from Nat.add_sub_cancel_left _ _,
        List.getElem?_replicate, if_pos hi]

omit [Inhabited α] in
theorem dfltAt_eq (H : α → α → α) (dflt : α) : ∀ k, Full.dfltAt H dflt k = Ideal.dfltAt H dflt k
  | 0 => rfl
  | k+1 => by rw [Full.dfltAt, Ideal.dfltAt, dfltAt_eq H dflt k]

omit [Inhabited α] in
theorem new_size (H : α → α → α) (dflt : α) (d : Nat) : (Full.new H dflt d).nodes.size = 2 ^ (d + 1) - 1 :=
  lvls_length (fun l => Full.dfltAt H dflt (d - l)) (d + 1)

theorem new_fn (H : α → α → α) (dflt : α) (d l i : Nat) (hl : l ≤ d) (hi : i < 2 ^ l) :
    fn (Full.new H dflt d).nodes l i = Ideal.dfltAt H dflt (d - l) := by
  have := lvls_get (fun l => Full.dfltAt H dflt (d - l)) (d + 1) l i (by omega) hi
  unfold lvls at this
  simp only [fn, Full.new, Array.getElem!_eq_getD, Array.getD_eq_getD_getElem?, List.getElem?_toArray]
  rw [this, ← dfltAt_eq]
  rfl

end Full

end Zk.Tree
