import ZkProofs.Lemmas.IdealLemmas
/-!
# Histories: operation sequences run on the ideal tree and on the backends

`TreeOp` is the mutator alphabet of the `ZerokitMerkleTree` trait. `applyOp` is the raw outcome of
one operation, `step` keeps the old state when the operation is rejected, `stepOut` says whether it
was accepted, `run` folds a history from the freshly constructed tree.
-/
namespace Zk.Tree

inductive TreeOp (α : Type) where
  | set (i : Nat) (v : α)
  | delete (i : Nat)
  | append (v : α)
  | setRange (start : Nat) (vs : List α)
  | batch (start : Nat) (vs : List α) (rem : List Nat)
  | reset

def keepOk {σ : Type} (t : σ) : Outcome σ → σ
  | .ok t' => t'
  | _ => t

variable {α : Type} [Inhabited α]

/-! ## the specification -/

def Ideal.applyOp (dflt : α) (t : Ideal α) : TreeOp α → Outcome (Ideal α)
  | .set i v => t.set i v
  | .delete i => .ok (t.delete dflt i)
  | .append v => t.append v
  | .setRange start vs => t.setRange start vs
  | .batch start vs rem => Ideal.batch dflt t start vs rem
  | .reset => .ok (Ideal.new t.depth)

def Ideal.step (dflt : α) (t : Ideal α) (op : TreeOp α) : Ideal α :=
  keepOk t (Ideal.applyOp dflt t op)

/-- the trait's `delete` answers `Ok` at any index on the in-memory backends; pmtree answers `Err`
    above the high-water mark, so `Pm.stepOut` is the raw result and is not compared with this
    (C06Pm states agreement of states only) -/
def Ideal.stepOut (dflt : α) (t : Ideal α) : TreeOp α → Bool
  | .delete _ => true
  | .reset => true
  | op => (Ideal.applyOp dflt t op).isOk

def Ideal.run (dflt : α) (d : Nat) (ops : List (TreeOp α)) : Ideal α :=
  ops.foldl (Ideal.step dflt) (Ideal.new d)

/-! ## `FullMerkleTree` -/

def Full.applyOp (H : α → α → α) (dflt : α) (t : Full α) : TreeOp α → Outcome (Full α)
  | .set i v => Full.set H t i v
  | .delete i => Full.delete H dflt t i
  | .append v => Full.updateNext H t v
  | .setRange start vs => Full.setRange H t start vs
  | .batch start vs rem => Full.overrideRange H dflt t start vs rem
  | .reset => .ok (Full.new H dflt t.depth)

def Full.step (H : α → α → α) (dflt : α) (t : Full α) (op : TreeOp α) : Full α :=
  keepOk t (Full.applyOp H dflt t op)

def Full.stepOut (H : α → α → α) (dflt : α) (t : Full α) : TreeOp α → Bool
  | .delete _ => true
  | .reset => true
  | op => (Full.applyOp H dflt t op).isOk

def Full.run (H : α → α → α) (dflt : α) (d : Nat) (ops : List (TreeOp α)) : Full α :=
  ops.foldl (Full.step H dflt) (Full.new H dflt d)

/-- `RLN::init_tree_with_leaves`: `set_tree(new)` then `set_leaves_from(0, leaves)`, which is
    `override_range(0, leaves, [])` -/
def Full.initTreeWithLeaves (H : α → α → α) (dflt : α) (d : Nat) (vs : List α) : Outcome (Full α) :=
  Full.overrideRange H dflt (Full.new H dflt d) 0 vs []

/-! ## `OptimalMerkleTree` -/

variable {M : Type} [MapLike M (Nat × Nat) α]

def Optimal.applyOp (H : α → α → α) (dflt : α) (t : Optimal α M) : TreeOp α → Outcome (Optimal α M)
  | .set i v => Optimal.set H t i v
  | .delete i => Optimal.delete H dflt t i
  | .append v => Optimal.updateNext H t v
  | .setRange start vs => Optimal.setRange H t start vs
  | .batch start vs rem => Optimal.overrideRange H dflt t start vs rem
  | .reset => .ok (Optimal.new H dflt t.depth)

def Optimal.step (H : α → α → α) (dflt : α) (t : Optimal α M) (op : TreeOp α) : Optimal α M :=
  keepOk t (Optimal.applyOp H dflt t op)

def Optimal.stepOut (H : α → α → α) (dflt : α) (t : Optimal α M) : TreeOp α → Bool
  | .delete _ => true
  | .reset => true
  | op => (Optimal.applyOp H dflt t op).isOk

def Optimal.run (H : α → α → α) (dflt : α) (d : Nat) (ops : List (TreeOp α)) : Optimal α M :=
  ops.foldl (Optimal.step H dflt) (Optimal.new H dflt d)

def Optimal.initTreeWithLeaves (H : α → α → α) (dflt : α) (d : Nat) (vs : List α) :
    Outcome (Optimal α M) :=
  Optimal.overrideRange H dflt (Optimal.new H dflt d) 0 vs []

/-! ## Backend-independent facts about histories -/

section generic
variable {α : Type}

theorem RefinesOutcome.keep {σ : Type} {R : σ → Ideal α → Prop} {t : σ} {s : Ideal α}
    {ot : Outcome σ} {os : Outcome (Ideal α)} (h : RefinesOutcome R t s ot os) :
    R (keepOk t ot) (keepOk s os) ∧ ot.isOk = os.isOk ∧ ot ≠ .panic := by
  cases ot <;> cases os <;> simp [RefinesOutcome, keepOk, Outcome.isOk] at h ⊢ <;> exact h

theorem RefinesOutcome.rejected {σ : Type} {R : σ → Ideal α → Prop} {t : σ} {s : Ideal α}
    {ot : Outcome σ} {os : Outcome (Ideal α)} (h : RefinesOutcome R t s ot os) (hr : os.isOk = false) :
    keepOk t ot = t ∧ keepOk s os = s := by
  cases ot <;> cases os <;> simp [RefinesOutcome, keepOk, Outcome.isOk] at h hr ⊢

theorem Ideal.step_depth (dflt : α) (s : Ideal α) (op : TreeOp α) :
    (Ideal.step dflt s op).depth = s.depth := by
  cases op with
  | set i v =>
    simp only [Ideal.step, Ideal.applyOp, Ideal.set]
    split <;> rfl
  | delete i => exact Ideal.delete_depth dflt s i
  | append v =>
    simp only [Ideal.step, Ideal.applyOp, Ideal.append, Ideal.set]
    split <;> rfl
  | setRange start vs =>
    simp only [Ideal.step, Ideal.applyOp, Ideal.setRange]
    split
    · exact Ideal.writeMany_depth s start vs
    · rfl
  | batch start vs rem =>
    simp only [Ideal.step, Ideal.applyOp, Ideal.batch]
    split
    · rfl
    · show (Ideal.writeMany _ start vs).depth = _
      rw [Ideal.writeMany_depth, Ideal.removeMany_depth]
  | reset => rfl

theorem Ideal.run_depth (dflt : α) (d : Nat) (ops : List (TreeOp α)) :
    (Ideal.run dflt d ops).depth = d :=
  List.foldlRecOn (motive := fun s : Ideal α => s.depth = d) ops _ rfl
    fun s h op _ => (Ideal.step_depth dflt s op).trans h

theorem Ideal.step_setRange_nil (dflt : α) (s : Ideal α) (start : Nat) :
    Ideal.step dflt s (.setRange start []) = s := by
  simp only [Ideal.step, Ideal.applyOp, Ideal.setRange]
  split <;> rfl

theorem Ideal.applyOp_of_rejected {dflt : α} {s : Ideal α} {op : TreeOp α}
    (h : Ideal.stepOut dflt s op = false) : (Ideal.applyOp dflt s op).isOk = false := by
  cases op with
  | delete i => exact absurd h (by simp [Ideal.stepOut])
  | reset => exact absurd h (by simp [Ideal.stepOut])
  | set i v => exact h
  | append v => exact h
  | setRange start vs => exact h
  | batch start vs rem => exact h

end generic

end Zk.Tree
