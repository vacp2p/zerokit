import ZkProofs.Lemmas.PmRange
/-!
# The persistent tree (pmtree + adapter) refines the ideal tree when no storage failure is injected

`Pm.Rel` is `Pm.Inv` plus the simulation `Sim` of the tree base, read through `getElem`
(`Pm.Rel.sim`, `Pm.Rel.of_sim`). Every operation is a pmtree write (`Pm.Wrote`) followed by flag
writes, which `Pm.Wrote.rel` turns into `Sim.writeMany`; deletion adds `Sim.delete`, creation is
`Sim.new`, and the observables are `Sim.obs`.
-/
namespace Zk.Tree

section
variable {α : Type} [Inhabited α] {D : Type} [MapLike D PmKey (PmVal α)] {H : α → α → α} {dflt : α}

theorem Pm.Rel.sim {t : Pm α D} {s : Ideal α} (h : Pm.Rel H dflt t s) :
    Sim H dflt t.depth t.next t.flags t.getElem s :=
  ⟨h.depth, h.next, h.inv.next_le, h.inv.fsize, h.inv.cons, h.leaves, h.flags⟩

theorem Pm.Rel.of_sim {t : Pm α D} {s : Ideal α} (hinv : Pm.Inv H t)
    (h : Sim H dflt t.depth t.next t.flags t.getElem s) : Pm.Rel H dflt t s :=
  ⟨hinv, h.depth, h.next, h.leaves, h.flags⟩

theorem Pm.proofAux_eq_path (t : Pm α D) : ∀ d i, Pm.proofAux t d i = NodeFn.path t.getElem d i
  | 0, _ => rfl
  | d+1, i => by simp only [Pm.proofAux, NodeFn.path, Pm.proofAux_eq_path t d]

theorem Pm.treeSet_err (t : Pm α D) (key : Nat) (v : α) (h : ¬ key < 2 ^ t.depth) :
    Pm.treeSet H key v t = (t, .err) := by
  unfold Pm.treeSet Pm.cap
  rw [if_pos (by omega)]

theorem Pm.Wrote.rel {t t' : Pm α D} {s : Ideal α} {start : Nat} {vs : List α} (hrel : Pm.Rel H dflt t s)
    (hw : Pm.Wrote H t t' start vs) {fl : Array Nat} (hfs : fl.size = t.flags.size)
    (hfl : ∀ i, i < 2 ^ t.depth →
      fl[i]! = if start ≤ i ∧ i < start + vs.length then 1 else t.flags[i]!) :
    Pm.Rel H dflt { t' with flags := fl }
      { s.writeMany start vs with next := max s.next (start + vs.length) } := by
  have hsim := hrel.sim.writeMany (g' := t'.getElem) (fl' := fl) (nx' := t'.next) start vs
    (hw.depth ▸ hw.inv.cons) hw.leaves (hfs.trans hrel.inv.fsize) hfl (hw.depth ▸ hw.inv.next_le)
  refine Pm.Rel.of_sim (hw.inv.withFlags (hfs.trans (congrArg Array.size hw.flags.symm))) ?_
  show Sim H dflt t'.depth t'.next fl t'.getElem _
  rw [hw.depth, ← hrel.next, ← hw.next]
  exact hsim

variable [LawfulMapLike D PmKey (PmVal α)]

/-- shared by `set` (`b = 1`) and `delete` (`b = 0`): the relation is stated with the flag raised
    whatever `b`, and `delete_rel` goes on from there with `Sim.delete` -/
theorem Pm.write_rel {t : Pm α D} {s : Ideal α} (hrel : Pm.Rel H dflt t s) (key : Nat) (v : α) (b : Nat)
    (hk : key < 2 ^ t.depth) :
    ∃ t1 : Pm α D, (Pm.treeSet H key v >>= fun _ => Pm.setFlag key b) t = (t1.withFlag key b, .ok ()) ∧
      Pm.Rel H dflt (t1.withFlag key 1) { s.write key v with next := max s.next (key + 1) } := by
  obtain ⟨t1, h1, hw⟩ := Pm.treeSet_spec H t hrel.inv key v hk
  have hfs := hrel.inv.fsize
  refine ⟨t1, ?_, ?_⟩
  · rw [PmM.bind_ok h1]
    exact Pm.setFlag_ok t1 key b (by rw [hw.flags, hfs]; exact hk)
  · show Pm.Rel H dflt { t1 with flags := t1.flags.setIfInBounds key 1 } _
    rw [hw.flags]
    refine hw.rel hrel Array.size_setIfInBounds fun i _ => ?_
    rw [getElem!_setIfInBounds, hfs]
    by_cases hik : key = i
    · rw [if_pos ⟨hik, hk⟩, if_pos ⟨Nat.le_of_eq hik, hik ▸ Nat.lt_succ_self _⟩]
    · rw [if_neg fun e => hik e.1, if_neg fun e => hik (Nat.le_antisymm e.1 (Nat.le_of_lt_succ e.2))]

end

variable {α : Type} [Inhabited α] (D : Type) [MapLike D PmKey (PmVal α)]

theorem Pm.obs_eq (H : α → α → α) (dflt : α) : Pm.ObsStmt D H dflt := by
  intro t s h
  have hp : ∀ i, t.proof i = NodeFn.proof t.depth t.getElem i := fun i => by
    unfold Pm.proof NodeFn.proof
    rw [Pm.proofAux_eq_path]
    rfl
  have hs : ∀ l i, t.getSubtreeRoot l i = NodeFn.getSubtreeRoot t.depth t.getElem l i := fun l i => by
    unfold Pm.getSubtreeRoot NodeFn.getSubtreeRoot
    rw [h.inv.root_eq]
    rfl
  rw [h.inv.root_eq]
  simp only [hp, hs]
  exact h.sim.obs

variable [LawfulMapLike D PmKey (PmVal α)]

theorem Pm.new_rel (H : α → α → α) (dflt : α) : Pm.NewStmt D H dflt := by
  intro d hd
  obtain ⟨db, hnew, hf, hdk, hnk, hread, -⟩ := Pm.new_ok (D := D) H dflt d _ rfl
  show (Pm.new (D := D) H dflt d { kv := MapLike.empty }).2 = .ok () ∧
    Pm.Rel H dflt (Pm.new (D := D) H dflt d { kv := MapLike.empty }).1 (Ideal.new d)
  rw [hnew]
  have hsim := Sim.new (H := H) (dflt := dflt) (d := d) fun l i hl _ =>
    (hread l i).trans (Pm.mkCache_get H dflt d l hl)
  exact ⟨rfl, Pm.Rel.of_sim ⟨Pm.mkCache_size H dflt d, hsim.fsize, hsim.next_le, hd, hf, (hread 0 0).symm,
    hsim.tree, hdk, hnk⟩ hsim⟩

theorem Pm.set_rel (H : α → α → α) (dflt : α) : Pm.SetStmt D H dflt := by
  intro t s i v hrel
  unfold PmRefines Ideal.set Ideal.cap
  by_cases hi : i < 2 ^ s.depth
  · obtain ⟨t1, h1, h2⟩ := Pm.write_rel hrel i v 1 (by rw [hrel.depth]; exact hi)
    rw [show Pm.set H i v t = _ from h1, if_pos hi]
    exact h2
  · rw [show Pm.set H i v t = (t, .err) from
      PmM.bind_err (Pm.treeSet_err t i v (by rw [hrel.depth]; exact hi)), if_neg hi]
    exact hrel

theorem Pm.append_rel (H : α → α → α) (dflt : α) : Pm.AppendStmt D H dflt := by
  intro t s v hrel
  unfold Ideal.append
  rw [← hrel.next]
  -- `update_next` is `set` at the high-water mark
  exact Pm.set_rel D H dflt t s t.next v hrel

theorem Pm.delete_rel (H : α → α → α) (dflt : α) : Pm.DeleteStmt D H dflt := by
  intro t s i hrel
  show (Pm.delete H dflt i t).2 = _ ∧ Pm.Rel H dflt (Pm.delete H dflt i t).1 _
  by_cases hi : i < s.next
  · have hle := hrel.inv.next_le
    obtain ⟨t1, h1, h2⟩ := Pm.write_rel hrel i dflt 0 (by have := hrel.next; omega)
    have hrun : Pm.delete H dflt i t = (t1.withFlag i 0, .ok ()) := by
      rw [← h1]
      show PmM.bind' _ _ t = PmM.bind' _ _ t
      unfold PmM.bind' Pm.treeDelete
      rw [hrel.next, if_neg (by omega)]
    rw [hrun, if_pos hi]
    refine ⟨rfl, Pm.Rel.of_sim (h2.inv.withFlags (Array.size_setIfInBounds.trans Array.size_setIfInBounds.symm)) ?_⟩
    have := Sim.delete i hi h2.sim
    rwa [show (t1.withFlag i 1).flags.setIfInBounds i 0 = t1.flags.setIfInBounds i 0 from
      Array.setIfInBounds_setIfInBounds ..] at this
  · have herr : Pm.treeDelete H dflt i t = (t, .err) := by
      unfold Pm.treeDelete
      rw [hrel.next, if_pos (by omega)]
    rw [show Pm.delete H dflt i t = (t, .err) from PmM.bind_err herr, if_neg hi]
    unfold Ideal.delete
    rw [if_neg hi]
    exact ⟨rfl, hrel⟩

theorem Pm.setRange_rel (S : Type) [MapLike S (Nat × Nat) α] [LawfulMapLike S (Nat × Nat) α]
    (H : α → α → α) (dflt : α) : Pm.SetRangeStmt D S H dflt := by
  intro t s start vs hrel hne
  unfold PmRefines Ideal.setRange Ideal.cap
  have hemp : vs.isEmpty = false := List.isEmpty_eq_false_iff.mpr hne
  have hrun : Pm.setRange S H start vs t =
      (Pm.treeSetRange S H start vs >>= fun _ =>
        Pm.setFlags 1 ((List.range vs.length).map (start + ·))) t := by
    unfold Pm.setRange
    rw [hemp]
    rfl
  by_cases hfit : start + vs.length ≤ 2 ^ s.depth
  · obtain ⟨t1, h1, hw⟩ := Pm.treeSetRange_spec S H t hrel.inv start vs hne (by rw [hrel.depth]; exact hfit)
    have hl : ∀ j, j ∈ (List.range vs.length).map (start + ·) ↔ start ≤ j ∧ j < start + vs.length :=
      fun j => by rw [← List.range'_eq_map_range, List.mem_range'_1]
    have hfs : t1.flags.size = 2 ^ s.depth := by rw [hw.flags, hrel.inv.fsize, hrel.depth]
    have g1 := Pm.setFlags_ok 1 _ t1 fun i hi => by
      have := (hl i).mp hi
      omega
    rw [hrun, PmM.bind_ok h1, g1, if_pos hfit, hemp]
    refine hw.rel hrel ((foldl_setIfInBounds_size (fun _ => 1) _ _).trans (congrArg Array.size hw.flags))
      fun i hi => ?_
    show (List.foldl _ _ _)[i]! = _
    rw [foldl_setIfInBounds_get (fun _ => 1) _ _ (by rw [hfs, ← hrel.depth]; exact hi), hw.flags]
    simp only [hl]
  · have herr : Pm.treeSetRange S H start vs t = (t, .err) := by
      unfold Pm.treeSetRange Pm.cap
      rw [hrel.depth]
      simp only [if_pos (show start + vs.length > 2 ^ s.depth by omega)]
    rw [hrun, PmM.bind_err herr, if_neg hfit]
    exact hrel

theorem Pm.batch_rel_partial (S : Type) [MapLike S (Nat × Nat) α] [LawfulMapLike S (Nat × Nat) α]
    (H : α → α → α) (dflt : α) : Pm.BatchStmtPartial D S H dflt := by
  intro t s start vs hrel
  match vs with
  | [] =>
    have h1 : Pm.overrideRange S H dflt start ([] : List α) [] t = (t, .err) := rfl
    have h2 : Ideal.batch dflt s start ([] : List α) [] = .err := by
      unfold Ideal.batch
      simp
    rw [h1, h2]
    exact hrel
  | [v] =>
    have h1 : Pm.overrideRange S H dflt start [v] [] t = Pm.set H start v t := rfl
    rw [h1, Ideal.batch_nil dflt s start (by simp), ← Ideal.set_eq_setRange]
    exact Pm.set_rel D H dflt t s start v hrel
  | a :: b :: r =>
    have h1 : Pm.overrideRange S H dflt start (a :: b :: r) [] t = Pm.setRange S H start (a :: b :: r) t := rfl
    rw [h1, Ideal.batch_nil dflt s start (by simp)]
    exact Pm.setRange_rel D S H dflt t s start (a :: b :: r) hrel (by simp)

end Zk.Tree
