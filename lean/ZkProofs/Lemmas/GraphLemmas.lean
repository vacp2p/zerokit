import ZkProofs.Lemmas.GraphDefs
import ZkProofs.Lemmas.OpsProofs
import ZkProofs.Lemmas.BytesLemmas
import ZkProofs.Lemmas.ArrayLemmas
/-!
# Lemmas behind `GraphProofs.lean` (C20, C05)

`Sound`, the invariant of the single pass `evalAll`, says that the values computed so far are the
reference interpretation `denote` of their nodes at every sufficient fuel, so each reference of the
next node reads the same from `denote` and from the array whatever fuel the recursion is at (the pass
does not go through fuel independence, `denote_fuel`). Input placement is one induction,
`populate_spec`, which describes every cell of the filled buffer. On the storage side the push-back
reader is seen as the `stream` of bytes still to come, and the container framing is read from such a
stream.
-/
namespace Zk.Graph
open Zk.Graph.Storage

/-! ## the reference interpretation and the single pass -/

theorem denote_fuel (nodes : Array Node) (inputs : Array Nat) :
    ∀ (f f' i : Nat), i < f → i < f' → denote nodes inputs f i = denote nodes inputs f' i := by
  intro f
  induction f with
  | zero => intro f' i h; omega
  | succ f ih =>
    intro f' i h h'
    obtain ⟨f', rfl⟩ : ∃ g, f' = g + 1 := ⟨f' - 1, by omega⟩
    -- every recursive call sits under the guard that its reference is below `i`
    have below : ∀ a, a < i → denote nodes inputs f a = denote nodes inputs f' a :=
      fun a ha => ih f' a (by omega) (by omega)
    rw [denote, denote]
    cases nodes[i]? with
    | none => rfl
    | some n => cases n <;> simp +contextual only [below]

def Sound (nodes : Array Node) (inputs values : Array Nat) : Prop :=
  ∀ i, i < values.size → ∀ f, i < f → denote nodes inputs f i = .ok values[i]!

section
variable {nodes : Array Node} {inputs values : Array Nat}

/-- a reference `a` of node `values.size`: either backward, and then `denote` and the array agree,
    or not, and then both sides panic -/
theorem Sound.look (h : Sound nodes inputs values) (f a : Nat) (hf : values.size ≤ f) :
    (a < values.size ∧ denote nodes inputs f a = .ok values[a]! ∧ values[a]? = some values[a]!) ∨
    (¬ a < values.size ∧ values[a]? = none) := by
  by_cases ha : a < values.size
  · exact .inl ⟨ha, h a ha f (by omega), by rw [getElem?_pos values a ha, getElem!_pos values a ha]⟩
  · exact .inr ⟨ha, getElem?_neg values a ha⟩

theorem Sound.step (h : Sound nodes inputs values) {n : Node} (hn : nodes[values.size]? = some n)
    (f : Nat) (hf : values.size < f) :
    denote nodes inputs f values.size = evalNode values inputs n := by
  obtain ⟨f, rfl⟩ : ∃ g, f = g + 1 := ⟨f - 1, by omega⟩
  have look := fun a => h.look f a (by omega)
  rw [denote, hn]
  cases n with
  | uno op a =>
    rcases look a with ⟨ha, da, va⟩ | ⟨ha, va⟩ <;> simp only [evalNode, *, if_true, if_false]
  | duo op a b =>
    rcases look a with ⟨ha, da, va⟩ | ⟨ha, va⟩ <;> rcases look b with ⟨hb, db, vb⟩ | ⟨hb, vb⟩ <;>
      simp only [evalNode, *, and_self, and_false, false_and, if_true, if_false]
  | tres op a b c =>
    rcases look a with ⟨ha, da, va⟩ | ⟨ha, va⟩ <;> rcases look b with ⟨hb, db, vb⟩ | ⟨hb, vb⟩ <;>
      rcases look c with ⟨hc, dc, vc⟩ | ⟨hc, vc⟩ <;>
      simp only [evalNode, *, and_self, and_false, false_and, if_true, if_false]
  | _ => rfl

theorem Sound.push (h : Sound nodes inputs values) {x : Nat}
    (hx : ∀ f, values.size < f → denote nodes inputs f values.size = .ok x) :
    Sound nodes inputs (values.push x) := by
  intro i hi f hf
  rw [Array.size_push] at hi
  rw [getElem!_pos _ i (by rw [Array.size_push]; exact hi), Array.getElem_push]
  split
  · next hlt => rw [h i hlt f hf, getElem!_pos values i hlt]
  · next hge =>
    obtain rfl : i = values.size := by omega
    exact hx f hf

theorem evalAll_sound (nodes : Array Node) (inputs : Array Nat) :
    ∀ (rest : List Node) (v0 v : Array Nat), nodes.toList.drop v0.size = rest → Sound nodes inputs v0 →
      evalAll inputs rest v0 = .ok v → v.size = v0.size + rest.length ∧ Sound nodes inputs v := by
  intro rest
  induction rest with
  | nil => intro v0 v _ hs h; cases h; exact ⟨rfl, hs⟩
  | cons n rest ih =>
    intro v0 v hd hs h
    have hn : nodes[v0.size]? = some n := by
      rw [← Array.getElem?_toList, ← List.head?_drop, hd]; rfl
    rw [evalAll] at h
    cases hx : evalNode v0 inputs n with
    | ok x =>
      rw [hx] at h
      obtain ⟨h1, h2⟩ := ih (v0.push x) v (by rw [Array.size_push, ← List.drop_drop, hd]; rfl)
        (hs.push fun f hf => (hs.step hn f hf).trans hx) h
      exact ⟨by rw [h1, Array.size_push, List.length_cons]; omega, h2⟩
    | err => rw [hx] at h; cases h
    | panic => rw [hx] at h; cases h

end

/-! ## a well-formed graph never crashes -/

theorem evalNode_total {inputs values : Array Nat} {n : Node}
    (hin : ∀ x ∈ inputs, x < P) (hv : ∀ x ∈ values, x < P)
    (hok : nodeOk inputs.size values.size n = true) :
    ∃ v, evalNode values inputs n = .ok v ∧ v < P := by
  have get : ∀ {xs : Array Nat} {a : Nat}, (∀ x ∈ xs, x < P) → a < xs.size → ∃ x, xs[a]? = some x ∧ x < P :=
    fun {xs a} hxs h => ⟨xs[a], getElem?_pos xs a h, hxs _ (Array.getElem_mem h)⟩
  cases n <;> simp only [nodeOk, Bool.and_eq_true, decide_eq_true_eq] at hok
  case input k =>
    obtain ⟨x, e, hx⟩ := get hin hok
    exact ⟨x, by simp only [evalNode, e, hx, if_true], hx⟩
  case constant c => exact ⟨c, by simp only [evalNode, hok, if_true], hok⟩
  case montConstant c => exact ⟨c, rfl, hok⟩
  case uno op a =>
    obtain ⟨ha, rfl⟩ := hok
    obtain ⟨x, e, hx⟩ := get hv ha
    simp only [evalNode, e]
    exact ⟨_, evalFrUno_sem x hx⟩
  case duo op a b =>
    obtain ⟨x, ea, hx⟩ := get hv hok.1.1
    obtain ⟨y, eb, hy⟩ := get hv hok.1.2
    simp only [evalNode, ea, eb]
    exact evalFr_no_panic op x y hx hy hok.2
  case tres op a b c =>
    obtain ⟨x, ea, hx⟩ := get hv hok.1.1
    obtain ⟨y, eb, hy⟩ := get hv hok.1.2
    obtain ⟨z, ec, hz⟩ := get hv hok.2
    cases op
    simp only [evalNode, ea, eb, ec]
    exact ⟨_, evalFrTres_sem x y z hx hy hz⟩

theorem evalAll_total (inputs : Array Nat) (hin : ∀ x ∈ inputs, x < P) :
    ∀ (rest : List Node) (v0 : Array Nat), wfAux inputs.size rest v0.size = true → (∀ x ∈ v0, x < P) →
      ∃ v, evalAll inputs rest v0 = .ok v ∧ v.size = v0.size + rest.length ∧ ∀ x ∈ v, x < P := by
  intro rest
  induction rest with
  | nil => intro v0 _ hv; exact ⟨v0, rfl, rfl, hv⟩
  | cons n rest ih =>
    intro v0 hwf hv
    simp only [wfAux, Bool.and_eq_true] at hwf
    obtain ⟨x, h1, h2⟩ := evalNode_total hin hv hwf.1
    have hv' : ∀ y ∈ v0.push x, y < P := by
      intro y hy
      rcases Array.mem_push.mp hy with h | rfl
      · exact hv y h
      · exact h2
    obtain ⟨v, e1, e2, e3⟩ := ih (v0.push x) (by simpa using hwf.2) hv'
    exact ⟨v, by simp only [evalAll, h1]; exact e1, by rw [e2, Array.size_push, List.length_cons]; omega, e3⟩

/-! ## two facts about lists, for the placement -/

theorem pairwise_sym {α : Type} {R : α → α → Prop} {l : List α} (hp : l.Pairwise R)
    (hR : ∀ a b, R a b → R b a) : ∀ a ∈ l, ∀ b ∈ l, a ≠ b → R a b := by
  -- `a ≠ b → R a b` is reflexive, and pairwise in both directions
  refine List.Pairwise.forall_of_forall_of_flip (R := fun a b => a ≠ b → R a b) (fun _ _ hne => absurd rfl hne)
    (hp.imp ?_) (hp.imp ?_)
  · exact fun h _ => h
  · exact fun h _ => hR _ _ h

theorem lookup_mem {β : Type} {info : List (String × β)} {name : String} {v : β}
    (h : info.lookup name = some v) : (name, v) ∈ info := by
  obtain ⟨l₁, l₂, rfl, _⟩ := List.lookup_eq_some_iff.mp h
  exact List.mem_append_right _ List.mem_cons_self

/-! ## input placement -/

theorem writeAt_spec : ∀ (vals : List Nat) (buf : Array Nat) (off : Nat), off + vals.length ≤ buf.size →
    ∃ b, writeAt buf off vals = some b ∧ b.size = buf.size ∧
      (∀ j, j < vals.length → b[off + j]! = vals[j]!) ∧ ∀ p, p < off ∨ off + vals.length ≤ p → b[p]! = buf[p]! := by
  intro vals
  induction vals with
  | nil => exact fun buf off _ => ⟨buf, rfl, rfl, fun _ hj => absurd hj (Nat.not_lt_zero _), fun _ _ => rfl⟩
  | cons v r ih =>
    intro buf off h
    rw [List.length_cons] at h
    obtain ⟨b, hb, hs, hin, hout⟩ := ih (buf.setIfInBounds off v) (off + 1)
      (by rw [Array.size_setIfInBounds]; omega)
    rw [Array.size_setIfInBounds] at hs
    refine ⟨b, by rw [writeAt, if_pos (by omega), hb], hs, fun j hj => ?_, fun p hp => ?_⟩
    · cases j with
      | zero => rw [Nat.add_zero, hout off (by omega), getElem!_setIfInBounds, if_pos ⟨rfl, by omega⟩]; rfl
      | succ j =>
        rw [List.length_cons] at hj
        rw [← Nat.add_assoc, Nat.add_right_comm, hin j (by omega), List.getElem!_cons_succ]
    · rw [List.length_cons] at hp
      rw [hout p (by omega), getElem!_setIfInBounds, if_neg (by omega)]

section
variable {info : List (String × Nat × Nat)}

/-- cell `p` of the filled buffer `b`: either it holds, at its place, the value of some supplied vector
    whose declared range covers `p`, or no supplied vector covers `p` and it is what `buf` held -/
def CellOf (info : List (String × Nat × Nat)) (ins : List (String × List Nat)) (buf b : Array Nat) (p : Nat) : Prop :=
  (∃ e ∈ ins, ∃ off len, info.lookup e.1 = some (off, len) ∧ off ≤ p ∧ p < off + len ∧ b[p]! = e.2[p - off]!) ∨
  ((∀ e ∈ ins, ∀ off len, info.lookup e.1 = some (off, len) → p < off ∨ off + len ≤ p) ∧ b[p]! = buf[p]!)

/-- No disjointness of the declared ranges is needed here (`CellOf` says SOME covering vector).
    Totality, the frame and — for disjoint ranges — the placement are read off this one induction. -/
theorem populate_spec : ∀ (ins : List (String × List Nat)) (buf : Array Nat),
    (∀ e ∈ info, e.2.1 + e.2.2 ≤ buf.size) →
    (∀ e ∈ ins, ∃ off len, info.lookup e.1 = some (off, len) ∧ len = e.2.length) →
    ∃ b, populateInputs info ins buf = .ok b ∧ b.size = buf.size ∧ ∀ p, CellOf info ins buf b p := by
  intro ins
  induction ins with
  | nil => exact fun buf _ _ => ⟨buf, rfl, rfl, fun _ => .inr ⟨fun _ he => (nomatch he), rfl⟩⟩
  | cons e rest ih =>
    intro buf hlay hfit
    obtain ⟨name, vals⟩ := e
    obtain ⟨off, _, hl, rfl⟩ : ∃ off len, info.lookup name = some (off, len) ∧ len = vals.length :=
      hfit _ List.mem_cons_self
    obtain ⟨b1, hw, hs1, hin, hout⟩ := writeAt_spec vals buf off (hlay _ (lookup_mem hl))
    obtain ⟨b, hb, hs, hcell⟩ := ih b1 (hs1 ▸ hlay) fun e he => hfit e (List.mem_cons_of_mem _ he)
    refine ⟨b, by simp only [populateInputs, hl, ne_eq, not_true_eq_false, if_false, hw, hb], hs.trans hs1, fun p => ?_⟩
    rcases hcell p with ⟨e, he, h⟩ | ⟨hno, hv⟩
    · exact .inl ⟨e, List.mem_cons_of_mem _ he, h⟩
    · by_cases hp : off ≤ p ∧ p < off + vals.length
      · refine .inl ⟨_, List.mem_cons_self, off, _, hl, hp.1, hp.2, ?_⟩
        rw [hv, ← hin (p - off) (by omega), show off + (p - off) = p by omega]
      · refine .inr ⟨fun e he off' len' hl' => ?_, by rw [hv, hout p (by omega)]⟩
        rcases List.mem_cons.mp he with rfl | he
        · rw [hl] at hl'; cases hl'; omega
        · exact hno e he off' len' hl'

variable {ins : List (String × List Nat)} {buf b : Array Nat}

theorem populate_at (hlay : LayoutOk info buf.size) (hfit : InputsFit info ins)
    (h : populateInputs info ins buf = .ok b) (p : Nat) : CellOf info ins buf b p := by
  obtain ⟨b', hb', _, hcell⟩ := populate_spec ins buf (fun e he => (hlay.2.1 e he).2) hfit.2
  cases hb'.symm.trans h
  exact hcell p

theorem populate_frame (hlay : LayoutOk info buf.size) (hfit : InputsFit info ins)
    (h : populateInputs info ins buf = .ok b) (p : Nat)
    (hp : ∀ e ∈ ins, ∀ off len, info.lookup e.1 = some (off, len) → p < off ∨ off + len ≤ p) : b[p]! = buf[p]! := by
  rcases populate_at hlay hfit h p with ⟨e, he, off, len, hl, h1, h2, _⟩ | ⟨_, hv⟩
  · have := hp e he off len hl
    omega
  · exact hv

theorem populate_place (hlay : LayoutOk info buf.size) (hfit : InputsFit info ins)
    (h : populateInputs info ins buf = .ok b) (e : String × List Nat) (he : e ∈ ins) (off len : Nat)
    (hl : info.lookup e.1 = some (off, len)) (j : Nat) (hj : j < len) : b[off + j]! = e.2[j]! := by
  rcases populate_at hlay hfit h (off + j) with ⟨e', he', off', len', hl', h1, h2, hv⟩ | ⟨hno, _⟩
  · by_cases hee : e' = e
    · subst hee
      rw [hl] at hl'
      cases hl'
      rw [hv, Nat.add_sub_cancel_left]
    · have hn : e'.1 ≠ e.1 := pairwise_sym (List.pairwise_map.mp hfit.1) (fun _ _ => Ne.symm) e' he' e he hee
      have := pairwise_sym hlay.2.2 (fun _ _ => Or.symm) _ (lookup_mem hl') _ (lookup_mem hl)
        (fun heq => hn (Prod.mk.inj heq).1)
      simp only at this
      omega
  · have := hno e he off len hl
    omega

end

/-! ## LEB128 round trip -/

theorem varint_spec : ∀ (f n : Nat) (rest : List UInt8), n < 128 ^ (f + 1) →
    (varint (f + 1) n).length ≤ f + 1 ∧ 0 < (varint (f + 1) n).length ∧
    decVarint (f + 1) (varint (f + 1) n ++ rest) = some (n, (varint (f + 1) n).length) := by
  have small : ∀ (f n : Nat) (rest : List UInt8), n < 128 →
      (varint (f + 1) n).length ≤ f + 1 ∧ 0 < (varint (f + 1) n).length ∧
      decVarint (f + 1) (varint (f + 1) n ++ rest) = some (n, (varint (f + 1) n).length) := by
    intro f n rest h
    rw [varint, if_pos h, List.singleton_append, decVarint, toUInt8_toNat_lt n (by omega), if_pos h]
    exact ⟨Nat.le_add_left 1 f, Nat.one_pos, rfl⟩
  intro f
  induction f with
  | zero => exact fun n rest h => small 0 n rest h
  | succ f ih =>
    intro n rest h
    by_cases h' : n < 128
    · exact small _ n rest h'
    · obtain ⟨i1, i2, i3⟩ := ih (n / 128) rest (by
        rw [Nat.div_lt_iff_lt_mul (by omega), ← Nat.pow_succ]; exact h)
      rw [varint, if_neg h', List.cons_append, decVarint, toUInt8_toNat_lt (n % 128 + 128) (by omega),
        if_neg (by omega), i3, List.length_cons]
      refine ⟨by omega, by omega, ?_⟩
      show some (n % 128 + 128 - 128 + 128 * (n / 128), _) = _
      congr 2
      omega

theorem encVarint_spec (n : Nat) (rest : List UInt8) (h : n < 2 ^ 64) :
    (encVarint n).length ≤ 10 ∧ 0 < (encVarint n).length ∧
    decVarint 10 (encVarint n ++ rest) = some (n, (encVarint n).length) :=
  varint_spec 9 n rest (Nat.lt_of_lt_of_le h (by decide))

/-! ## the push-back reader -/

/-- the bytes still to come: push-back stack (top first), then the reader -/
def stream (r : WBR) : List UInt8 := r.buffer.reverse ++ r.reader

theorem read_spec (r : WBR) (n : Nat) :
    (r.read n).1 = (stream r).take n ∧ stream (r.read n).2 = (stream r).drop n := by
  have h1 : r.buffer.length - min n r.buffer.length = r.buffer.length - n := by omega
  have h2 : n - min n r.buffer.length = n - r.buffer.length := by omega
  simp only [WBR.read, stream, h1, h2, List.take_append, List.drop_append, List.take_reverse, List.drop_reverse,
    List.length_reverse, and_self]

theorem write_spec (r : WBR) (bs : List UInt8) : stream (r.write bs) = bs ++ stream r := by
  simp [WBR.write, stream]

theorem pushback_spec (r : WBR) {k n : Nat} (hk : k ≤ n) :
    stream ((r.read n).2.write ((r.read n).1.drop k)) = (stream r).drop k := by
  rw [write_spec, (read_spec r n).1, (read_spec r n).2, List.drop_take,
    show (stream r).drop n = ((stream r).drop k).drop (n - k) by rw [List.drop_drop]; congr 1; omega,
    List.take_append_drop]

/-! ## container framing -/

theorem readMessageLength_spec (r : WBR) (n : Nat) (rest : List UInt8) (hn : n < 2 ^ 64)
    (hs : stream r = encVarint n ++ rest) :
    ∃ r', readMessageLength r = some (n, r') ∧ stream r' = rest := by
  obtain ⟨e1, e2, _⟩ := encVarint_spec n [] hn
  have key := pushback_spec r e1
  have h1 := (read_spec r 10).1
  rcases hrd : r.read 10 with ⟨buf, r1⟩
  rw [hrd] at h1 key
  simp only at h1 key
  rw [hs, List.drop_left] at key
  obtain ⟨t, hbuf⟩ : ∃ t, buf = encVarint n ++ t :=
    ⟨_, by rw [h1, hs, List.take_append, List.take_of_length_le e1]⟩
  have hne : buf.isEmpty = false := by
    rw [List.isEmpty_eq_false_iff, hbuf]
    exact List.append_ne_nil_of_left_ne_nil (List.ne_nil_of_length_pos e2) _
  have hdec : decVarint 10 (buf ++ List.replicate (10 - buf.length) 0) = some (n, (encVarint n).length) := by
    rw [hbuf, List.append_assoc]
    exact (encVarint_spec n _ hn).2.2
  refine ⟨_, by simp only [readMessageLength, hrd, hne, hdec]; rfl, ?_⟩
  split
  · exact key
  · rwa [List.drop_of_length_le (by omega), write_spec, List.nil_append] at key

theorem readMessage_spec (r : WBR) (m rest : List UInt8) (hm : m.length < 2 ^ 64)
    (hs : stream r = encVarint m.length ++ (m ++ rest)) :
    ∃ r', readMessage r = some (m, r') ∧ stream r' = rest := by
  obtain ⟨r1, h1, h2⟩ := readMessageLength_spec r m.length (m ++ rest) hm hs
  obtain ⟨g1, g2⟩ := read_spec r1 m.length
  rw [h2, List.take_left] at g1
  rw [h2, List.drop_left] at g2
  refine ⟨(r1.read m.length).2, ?_, g2⟩
  simp only [readMessage, h1, g1, ne_eq, not_true_eq_false, if_false]

theorem readMessages_spec : ∀ (msgs : List (List UInt8)) (r : WBR) (rest : List UInt8),
    (∀ m ∈ msgs, m.length < 2 ^ 64) →
    stream r = (msgs.map (fun m => encVarint m.length ++ m)).flatten ++ rest →
    ∃ r', readMessages msgs.length r = some (msgs, r') ∧ stream r' = rest
  | [], r, _, _, hs => ⟨r, rfl, hs⟩
  | m :: ms, r, rest, hm, hs => by
    rw [List.map_cons, List.flatten_cons, List.append_assoc, List.append_assoc] at hs
    obtain ⟨r1, h1, h2⟩ := readMessage_spec r m _ (hm m List.mem_cons_self) hs
    obtain ⟨r2, k1, k2⟩ := readMessages_spec ms r1 rest (fun m' hm' => hm m' (List.mem_cons_of_mem _ hm')) h2
    exact ⟨r2, by simp only [List.length_cons, readMessages, h1, k1], k2⟩

theorem unframe_header (cnt body : List UInt8) (hc : cnt.length = 8) :
    unframe (MAGIC ++ (cnt ++ body)) = match readMessages (leNat cnt) ⟨body, []⟩ with
      | none => none
      | some (ms, r) => match readMessage r with
        | none => none
        | some (md, _) => some (ms, md) := by
  have hlen : ¬ (MAGIC ++ (cnt ++ body)).length < MAGIC.length + 8 := by
    rw [List.length_append, List.length_append, hc]; omega
  rw [unframe, if_neg hlen, List.take_left, if_neg (by simp), List.drop_left, List.take_left' hc,
    ← List.drop_drop, List.drop_left, List.drop_left' hc]
  rfl

theorem unframe_frame (msgs : List (List UInt8)) (md : List UInt8) (hn : msgs.length < 2 ^ 64)
    (hm : ∀ m ∈ msgs, m.length < 2 ^ 64) (hmd : md.length < 2 ^ 64) :
    unframe (frame msgs md) = some (msgs, md) := by
  obtain ⟨tl, hfr⟩ : ∃ tl, frame msgs md = MAGIC ++ (natLE 8 msgs.length ++
      ((msgs.map (fun m => encVarint m.length ++ m)).flatten ++ (encVarint md.length ++ (md ++ tl)))) :=
    ⟨_, by simp only [frame, List.append_assoc]; rfl⟩
  obtain ⟨r1, h1, h2⟩ := readMessages_spec msgs
    ⟨(msgs.map (fun m => encVarint m.length ++ m)).flatten ++ (encVarint md.length ++ (md ++ tl)), []⟩ _ hm rfl
  obtain ⟨r2, k1, _⟩ := readMessage_spec r1 md tl hmd h2
  rw [hfr, unframe_header _ _ (Zk.natLE_length _ _), Zk.leNat_natLE_u64 _ hn, h1]
  simp only [k1]

/-! ## node conversion -/

theorem opOfCode_opCode (o : Op) : opOfCode (opCode o) = some o := by
  cases o <;> rfl

theorem leNat_minLE : ∀ (f v : Nat), v < 256 ^ f → leNat (minLE f v) = v := by
  intro f
  induction f with
  | zero => intro v h; simp only [Nat.pow_zero] at h; simp [minLE, leNat]; omega
  | succ f ih =>
    intro v h
    by_cases h' : v < 256
    · simp only [minLE, h', if_true, leNat, toUInt8_toNat_lt v h']; omega
    · have hdiv : v / 256 < 256 ^ f := by
        rw [Nat.div_lt_iff_lt_mul (by omega)]
        rw [Nat.pow_succ] at h; exact h
      simp only [minLE, h', if_false, leNat, Zk.toUInt8_toNat_mod, ih _ hdiv]
      omega

end Zk.Graph
