/-!
# The facts about `Array` that several parts of the development use

A cell after one `setIfInBounds`, and after a fold of them over a list of positions (the flag
vectors of the tree backends and the cell-wise fills of C18 are such folds).
-/
namespace Zk

variable {α : Type}

theorem getElem!_setIfInBounds [Inhabited α] (a : Array α) (i j : Nat) (v : α) :
    (a.setIfInBounds i v)[j]! = if i = j ∧ i < a.size then v else a[j]! := by
  simp only [Array.getElem!_eq_getD, Array.getD_eq_getD_getElem?, Array.getElem?_setIfInBounds]
  by_cases hij : i = j
  · subst hij
    by_cases hi : i < a.size <;> simp [hi]
  · simp [hij]

theorem foldl_size {γ : Type} (F : Array α → γ → Array α) (hF : ∀ a x, (F a x).size = a.size)
    (l : List γ) (a : Array α) : (l.foldl F a).size = a.size :=
  List.foldlRecOn (motive := fun b => b.size = a.size) l F rfl fun b h x _ => (hF b x).trans h

theorem foldl_setIfInBounds_size (f : Nat → α) (l : List Nat) (a : Array α) :
    (l.foldl (fun a i => a.setIfInBounds i (f i)) a).size = a.size :=
  foldl_size _ (fun _ _ => Array.size_setIfInBounds) l a

theorem foldl_setIfInBounds_get [Inhabited α] (f : Nat → α) (l : List Nat) (a : Array α) {j : Nat}
    (hj : j < a.size) :
    (l.foldl (fun a i => a.setIfInBounds i (f i)) a)[j]! = if j ∈ l then f j else a[j]! := by
  induction l generalizing a with
  | nil => rfl
  | cons i l ih =>
    rw [List.foldl_cons, ih _ (by rw [Array.size_setIfInBounds]; exact hj), getElem!_setIfInBounds]
    by_cases hjl : j ∈ l
    · rw [if_pos hjl, if_pos (List.mem_cons_of_mem _ hjl)]
    · by_cases hij : i = j
      · rw [if_neg hjl, if_pos ⟨hij, hij ▸ hj⟩, if_pos (hij ▸ List.mem_cons_self), hij]
      · rw [if_neg hjl, if_neg fun h => hij h.1,
          if_neg fun h => (List.mem_cons.mp h).elim (fun e => hij e.symm) hjl]

end Zk
