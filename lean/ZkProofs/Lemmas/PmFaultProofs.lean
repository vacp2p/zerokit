import ZkProofs.Lemmas.PmFaultDefs
/-!
# Persistence and injected storage failures on the persistent tree (C16)

One relation (`Pm.Upd`) describes what any adapter call may do to the store, whatever its result and
wherever an injected failure hits; `Pm.Cnt` is the accounting of the failure schedule. `Pm.Spec`
bundles both, is closed under the sequencing of the state-and-result monad and holds of every early
exit, so every model function is walked through once: unfold it, split its tests (the `sp_…` lemmas,
up to `call_spec`). The three statements of `PmFaultDefs.lean` that hold as written are proved at the
end; the corrected forms of the other four are stated and proved in `C16.lean`, from `call_spec`,
`run_hist` and `load_eq`.
-/
namespace Zk.Tree

variable {α : Type} [Inhabited α] {D : Type} [MapLike D PmKey (PmVal α)]

namespace Pm

/-- `dp` is the leaf level, `A` the leaf positions the call may change. The failure-tolerant
    counterpart of `Pm.Frame` (`PmLemmas.lean`). -/
structure Upd (dp : Nat) (A : Nat → Prop) (t t' : Pm α D) : Prop where
  depth : t'.depth = t.depth
  cache : t'.cache = t.cache
  depthKey : MapLike.get? t'.db.kv PmKey.depthKey = MapLike.get? t.db.kv PmKey.depthKey
  /-- a key holding a node value keeps holding one — all `load` needs of `(0,0)` (`Hist`) -/
  fr : ∀ d i, (∃ v, MapLike.get? t.db.kv (PmKey.node d i) = some (PmVal.fr v)) →
    ∃ v, MapLike.get? t'.db.kv (PmKey.node d i) = some (PmVal.fr v)
  /-- second disjunct: `fill_nodes` copies the siblings it read into the batch, so an absent entry
      may be written with the value it already read as -/
  leaf : 0 < dp → ∀ p, ¬ A p →
    MapLike.get? t'.db.kv (PmKey.node dp p) = MapLike.get? t.db.kv (PmKey.node dp p) ∨
    MapLike.get? t'.db.kv (PmKey.node dp p) = some (PmVal.fr (t.getElem dp p))

theorem Upd.getElem {dp : Nat} {A : Nat → Prop} {t t' : Pm α D} (h : Upd dp A t t') (hd : 0 < dp)
    (p : Nat) (hp : ¬ A p) : t'.getElem dp p = t.getElem dp p := by
  rcases h.leaf hd p hp with h1 | h1
  · exact getElem_congr h.cache h1
  · exact getElem_of_get? h1

theorem Upd.refl (dp : Nat) (A : Nat → Prop) (t : Pm α D) : Upd dp A t t :=
  ⟨rfl, rfl, rfl, fun _ _ h => h, fun _ _ _ => Or.inl rfl⟩

theorem Upd.trans {dp : Nat} {A : Nat → Prop} {t t' t'' : Pm α D} (h1 : Upd dp A t t')
    (h2 : Upd dp A t' t'') : Upd dp A t t'' := by
  refine ⟨h2.depth.trans h1.depth, h2.cache.trans h1.cache, h2.depthKey.trans h1.depthKey,
    fun d i h => h2.fr d i (h1.fr d i h), ?_⟩
  intro hd p hp
  rcases h2.leaf hd p hp with h3 | h3
  · rw [h3]; exact h1.leaf hd p hp
  · right; rw [h3, h1.getElem hd p hp]

theorem Upd.mono {dp : Nat} {A A' : Nat → Prop} {t t' : Pm α D} (h : Upd dp A t t')
    (hA : ∀ p, A p → A' p) : Upd dp A' t t' :=
  ⟨h.depth, h.cache, h.depthKey, h.fr, fun hd p hp => h.leaf hd p (fun ha => hp (hA p ha))⟩

theorem Upd.of_kv {dp : Nat} {A : Nat → Prop} {t t' : Pm α D} (hk : t'.db.kv = t.db.kv)
    (hd : t'.depth = t.depth) (hc : t'.cache = t.cache) : Upd dp A t t' :=
  ⟨hd, hc, by rw [hk], fun _ _ h => by rw [hk]; exact h, fun _ _ _ => Or.inl (by rw [hk])⟩

variable {β : Type} {dp : Nat} {A : Nat → Prop}

/-- what `Pm.FailureReportedStmt` claims of a call, for any step -/
def Cnt (t : Pm α D) (r : Pm α D × Outcome β) : Prop :=
  ∀ f, t.db.failAt = some f → t.db.calls ≤ f →
    r.1.db.failAt = some f ∧ t.db.calls ≤ r.1.db.calls ∧ (∀ b, r.2 = .ok b → r.1.db.calls ≤ f)

/-- stated of the result `r`, not of the action: the model functions are functions of the state, so
    a walk unfolds the function at `t` and splits its tests -/
def Spec (dp : Nat) (A : Nat → Prop) (t : Pm α D) (r : Pm α D × Outcome β) : Prop :=
  Upd dp A t r.1 ∧ Cnt t r

theorem Spec.mono {A' : Nat → Prop} {t : Pm α D} {r : Pm α D × Outcome β}
    (h : Spec dp A t r) (hA : ∀ p, A p → A' p) : Spec dp A' t r :=
  ⟨h.1.mono hA, h.2⟩

/-- an in-memory step: db, depth and cache untouched -/
theorem Spec.same {t : Pm α D} {r : Pm α D × Outcome β}
    (hdb : r.1.db = t.db) (hd : r.1.depth = t.depth) (hc : r.1.cache = t.cache) : Spec dp A t r := by
  refine ⟨Upd.of_kv (by rw [hdb]) hd hc, ?_⟩
  intro f hf hle
  rw [hdb]
  exact ⟨hf, Nat.le_refl _, fun _ _ => hle⟩

/-- the state literally unchanged -/
theorem Spec.stay (t : Pm α D) (o : Outcome β) :
    Spec dp A t (t, o) := Spec.same rfl rfl rfl

theorem Spec.ite {t : Pm α D} {c : Prop} [Decidable c]
    {a b : Pm α D × Outcome β} (ha : Spec dp A t a) (hb : Spec dp A t b) :
    Spec dp A t (if c then a else b) := by
  split
  · exact ha
  · exact hb

theorem Spec.bind {γ : Type} {m : PmM (Pm α D) β}
    {g : β → PmM (Pm α D) γ} {t : Pm α D} (h1 : Spec dp A t (m t))
    (h2 : ∀ b s', Spec dp A s' (g b s')) : Spec dp A t ((m >>= g) t) := by
  show Spec dp A t (PmM.bind' m g t)
  unfold Spec PmM.bind'
  obtain ⟨hu, hc⟩ := h1
  cases hm : m t with
  | mk s' o =>
    rw [hm] at hu hc
    cases o with
    | ok b =>
      obtain ⟨hu2, hc2⟩ := h2 b s'
      refine ⟨hu.trans hu2, fun f hf hle => ?_⟩
      obtain ⟨a1, a2, a3⟩ := hc f hf hle
      obtain ⟨b1, b2, b3⟩ := hc2 f a1 (a3 b rfl)
      exact ⟨b1, Nat.le_trans a2 b2, b3⟩
    | err | panic =>
      exact ⟨hu, fun f hf hle => ⟨(hc f hf hle).1, (hc f hf hle).2.1, fun b hb => by cases hb⟩⟩

/-! ## lists -/

theorem mem_insertSorted (x y : Nat) : ∀ l : List Nat, y ∈ insertSorted x l ↔ y = x ∨ y ∈ l
  | [] => by simp [insertSorted]
  | z :: r => by
    unfold insertSorted
    split
    · simp
    · rw [List.mem_cons, mem_insertSorted x y r, List.mem_cons, or_left_comm]

theorem mem_sortNat (y : Nat) : ∀ l : List Nat, y ∈ sortNat l ↔ y ∈ l
  | [] => by simp [sortNat]
  | x :: r => by
    show y ∈ insertSorted x (sortNat r) ↔ _
    rw [mem_insertSorted, mem_sortNat y r, List.mem_cons]

/-! ## the storage primitives -/

theorem Spec.tick {t : Pm α D} {r : Pm α D × Outcome Unit} {kv' : D}
    (hr : r = if t.db.failAt = some t.db.calls then (t.tick t.db.kv, .err) else (t.tick kv', .ok ()))
    (hu : Upd dp A t (t.tick kv')) : Spec dp A t r := by
  unfold Spec
  rw [hr]
  by_cases hf : t.db.failAt = some t.db.calls
  · rw [if_pos hf]
    refine ⟨Upd.of_kv rfl rfl rfl, ?_⟩
    intro f hf' _
    refine ⟨hf', Nat.le_succ _, fun b hb => by cases hb⟩
  · rw [if_neg hf]
    refine ⟨hu, ?_⟩
    intro f hf' hle
    refine ⟨hf', Nat.le_succ _, fun _ _ => ?_⟩
    show t.db.calls + 1 ≤ f
    have : t.db.calls ≠ f := fun h => hf (by rw [hf', h])
    omega

theorem sp_flush (t : Pm α D) : Spec dp A t (flush t) :=
  Spec.tick (flush_eq t) (Upd.of_kv rfl rfl rfl)

theorem sp_setFlag (i v : Nat) (t : Pm α D) :
    Spec dp A t (setFlag i v t) := by
  unfold Pm.setFlag
  exact Spec.ite (Spec.same rfl rfl rfl) (Spec.stay t _)

theorem sp_setFlags (v : Nat) :
    ∀ (l : List Nat) (t : Pm α D), Spec dp A t (setFlags v l t)
  | [], t => Spec.stay t _
  | i :: r, t => by
    unfold Pm.setFlags
    exact Spec.bind (sp_setFlag i v t) (fun _ s' => sp_setFlags v r s')

variable [LawfulMapLike D PmKey (PmVal α)]

theorem Upd.insert (t : Pm α D) (k : PmKey) (v : PmVal α)
    (hk : k ≠ PmKey.depthKey) (hfr : ∀ d i, k = PmKey.node d i → ∃ x, v = PmVal.fr x)
    (hleaf : ∀ p, k = PmKey.node dp p → A p) :
    Upd dp A t (t.tick (MapLike.insert t.db.kv k v)) := by
  refine ⟨rfl, rfl, ?_, fun d i hx => ?_, fun _ p hp => Or.inl ?_⟩
  · show MapLike.get? (MapLike.insert t.db.kv _ _) _ = _
    rw [LawfulMapLike.get?_insert, if_neg hk]
  · show ∃ x, MapLike.get? (MapLike.insert t.db.kv _ _) _ = _
    rw [LawfulMapLike.get?_insert]
    split
    · next e =>
      obtain ⟨x, rfl⟩ := hfr d i e
      exact ⟨x, rfl⟩
    · exact hx
  · show MapLike.get? (MapLike.insert t.db.kv _ _) _ = _
    rw [LawfulMapLike.get?_insert, if_neg fun e => hp (hleaf p e)]

theorem sp_put_node {d i : Nat} {x : α} (t : Pm α D)
    (h : d = dp → A i) : Spec dp A t (put (PmKey.node d i) (PmVal.fr x) t) :=
  Spec.tick (put_eq _ _ t) (Upd.insert t _ _ (by simp) (fun _ _ _ => ⟨x, rfl⟩)
    (fun p e => by injection e with h1 h2; exact h2 ▸ h h1))

theorem sp_put_other {k : PmKey} {v : PmVal α} (t : Pm α D)
    (hk : ∀ d i, k ≠ PmKey.node d i) (hk' : k ≠ PmKey.depthKey) : Spec dp A t (put k v t) :=
  Spec.tick (put_eq _ _ t) (Upd.insert t _ _ hk' (fun d i e => absurd e (hk d i))
    (fun p e => absurd e (hk dp p)))

/-! ## pmtree `set` -/

theorem sp_recalcFrom (H : α → α → α) :
    ∀ (d i : Nat) (t : Pm α D), d ≤ dp → Spec dp A t (recalcFrom H d i t)
  | 0, _, t, _ => Spec.stay t _
  | d+1, i, t, hd => by
    rw [recalcFrom_succ]
    refine Spec.bind (sp_put_node t (by omega)) fun _ s' => ?_
    split
    · exact Spec.same rfl rfl rfl
    · exact sp_recalcFrom H d (i / 2) s' (by omega)

theorem sp_treeSet (H : α → α → α) (key : Nat) (leaf : α) (t : Pm α D) (hA : A key) :
    Spec t.depth A t (treeSet H key leaf t) := by
  unfold Pm.treeSet
  exact Spec.ite (Spec.stay t _) <|
    Spec.bind (sp_put_node t fun _ => hA) fun _ s1 =>
      Spec.bind (sp_recalcFrom H _ _ s1 (Nat.le_refl _)) fun _ s2 =>
        Spec.bind (Spec.same rfl rfl rfl) fun _ s3 => sp_put_other s3 (by simp) (by simp)

theorem sp_treeDelete (H : α → α → α) (dflt : α) (key : Nat) (t : Pm α D) (hA : A key) :
    Spec t.depth A t (treeDelete H dflt key t) := by
  unfold Pm.treeDelete
  exact Spec.ite (Spec.stay t _) (sp_treeSet H key dflt t hA)

/-! ## pmtree `set_range` -/

variable {S : Type} [MapLike S (Nat × Nat) α]

/-- an unaddressed leaf that reads through the batch map as in the tree is absent from the map or
    there with that value: the two cases of `Upd.leaf` -/
theorem Upd.batch (t : Pm α D) (sub : S) (keys : List (Nat × Nat))
    (hv : 0 < dp → ∀ p, ¬ A p → view t sub dp p = t.getElem dp p) :
    Upd dp A t (t.tick ((keys.filterMap fun k =>
      (MapLike.get? sub k).map fun v => (PmKey.node k.1 k.2, PmVal.fr v)).foldl
        (fun m kv => MapLike.insert m kv.1 kv.2) t.db.kv)) := by
  refine ⟨rfl, rfl, foldl_insert_other (fun k => MapLike.get? sub k) PmKey.depthKey (by simp) keys t.db.kv,
    fun d i hx => ?_, fun hd p hp => ?_⟩
  · show ∃ v, MapLike.get? (List.foldl _ _ _) _ = _
    rw [foldl_insert_node (fun k => MapLike.get? sub k) d i keys t.db.kv]
    split
    · next hc =>
      obtain ⟨x, hx'⟩ := Option.ne_none_iff_exists'.mp hc.2
      exact ⟨x, by rw [hx']; rfl⟩
    · exact hx
  · show MapLike.get? (List.foldl _ _ _) _ = _ ∨ MapLike.get? (List.foldl _ _ _) _ = _
    rw [foldl_insert_node (fun k => MapLike.get? sub k) dp p keys t.db.kv]
    split
    · next hc =>
      obtain ⟨x, hx⟩ := Option.ne_none_iff_exists'.mp hc.2
      have hv := hv hd p hp
      unfold view at hv
      rw [hx] at hv ⊢
      exact Or.inr (congrArg (fun y => some (PmVal.fr y)) hv)
    · exact Or.inl rfl

variable [LawfulMapLike S (Nat × Nat) α]

theorem sp_treeSetRange (H : α → α → α) (start : Nat) (leaves : List α) (t : Pm α D) :
    Spec t.depth (fun p => start ≤ p ∧ p < start + leaves.length) t (treeSetRange S H start leaves t) := by
  unfold Pm.treeSetRange
  refine Spec.ite (Spec.stay t _) ?_
  dsimp only
  split
  · exact Spec.stay t _
  next sub1 keys hfill =>
  split
  · exact Spec.stay t _
  next rootVal sub2 ks2 hbatch =>
  refine Spec.bind (Spec.tick (putBatch_eq _ t) (Upd.batch t sub2 keys fun hd p hp => ?_))
    fun _ s1 => Spec.bind ?_ fun _ s2 => Spec.same rfl rfl rfl
  · -- the leaf is not the root, so it reads as in the tree through the map `fillNodes` starts from;
    -- `fillNodes` keeps that off the range and `batchRecalc` writes inner nodes only
    have h0 : view t (MapLike.insert (MapLike.empty : S) (0, 0) t.root) t.depth p = t.getElem t.depth p := by
      unfold view; rw [get?_insert_empty, if_neg (by simp only [Prod.mk.injEq]; omega)]; rfl
    rw [view_congr t (batchRecalc_untouched H hbatch (.inr (.inl (Nat.le_of_eq (Nat.zero_add _)))))]
    exact fillNodes_kept t leaves.toArray start (Nat.zero_add _)
      (by rw [get?_insert_empty, if_pos rfl]; exact Option.some_ne_none _)
      (fun _ h => by rw [List.size_toArray]; omega) h0 hfill
  · exact Spec.ite
      (Spec.bind (Spec.same rfl rfl rfl) fun _ s => sp_put_other s (by simp) (by simp))
      (Spec.stay s1 _)

/-! ## the adapter -/

theorem sp_set (H : α → α → α) (i : Nat) (leaf : α) (t : Pm α D) (hA : A i) :
    Spec t.depth A t (Pm.set H i leaf t) :=
  Spec.bind (sp_treeSet H i leaf t hA) (fun _ s' => sp_setFlag i 1 s')

theorem sp_delete (H : α → α → α) (dflt : α) (i : Nat) (t : Pm α D) (hA : A i) :
    Spec t.depth A t (Pm.delete H dflt i t) :=
  Spec.bind (sp_treeDelete H dflt i t hA) (fun _ s' => sp_setFlag i 0 s')

theorem sp_setRange (H : α → α → α) (start : Nat) (vs : List α) (t : Pm α D) :
    Spec t.depth (fun p => start ≤ p ∧ p < start + vs.length) t (Pm.setRange S H start vs t) := by
  unfold Pm.setRange
  split
  · exact Spec.stay t _
  · exact Spec.bind (sp_treeSetRange H start vs t) (fun _ s' => sp_setFlags 1 _ s')

theorem sp_removeIndices (H : α → α → α) (dflt : α) (idx : List Nat) (t : Pm α D) :
    Spec t.depth (fun p => idx.headD 0 ≤ p ∧ p ≤ idx.getLastD 0) t (Pm.removeIndices S H dflt idx t) := by
  refine Spec.mono (Spec.bind (sp_treeSetRange H _ _ t) (fun _ s' => sp_setFlags 0 _ s')) ?_
  intro p hp
  rw [List.length_replicate] at hp
  omega

theorem sp_removeIndicesAndSetLeaves (H : α → α → α) (dflt : α) (start : Nat) (leaves : List α)
    (idx : List Nat) (t : Pm α D) :
    Spec t.depth (fun p => start ≤ p ∧ p < start + (start + leaves.length - idx.headD 0)) t
      (Pm.removeIndicesAndSetLeaves S H dflt start leaves idx t) := by
  unfold Pm.removeIndicesAndSetLeaves
  -- five index checks, each an early exit, before the range write of the assembled vector
  refine Spec.ite (Spec.stay t _) ?_
  refine Spec.ite (Spec.stay t _) ?_
  refine Spec.ite (Spec.stay t _) ?_
  refine Spec.ite (Spec.stay t _) ?_
  refine Spec.ite (Spec.stay t _) ?_
  refine Spec.mono (Spec.bind (sp_treeSetRange H _ _ t) (fun _ s1 =>
    Spec.bind (sp_setFlags 0 _ s1) (fun _ s2 => sp_setFlags 1 _ s2))) ?_
  intro p hp
  rw [Array.length_toList, foldl_size _ (fun a x => by simp), foldl_size _ (fun a x => by simp),
    Array.size_replicate] at hp
  exact hp

/-! ## `override_range` -/

/-- positions `remove_indices_and_set_leaves` writes although the call does not address them: it
    passes `start` instead of the smallest index to `set_range` (open finding C08-pm-batch) -/
def overshoot : PmCall α → Nat → Prop
  | .op (.batch start vs rem), p =>
    vs ≠ [] ∧ rem ≠ [] ∧ start ≤ p ∧ p < start + (start + vs.length - (sortNat rem).headD 0)
  | _, _ => False

omit [LawfulMapLike D PmKey (PmVal α)] in
theorem overrideRange_cases (S : Type) [MapLike S (Nat × Nat) α] (H : α → α → α) (dflt : α) (start : Nat)
    (vs : List α) (rem : List Nat) {P : PmM (Pm α D) Unit → Prop}
    (h00 : vs = [] → sortNat rem = [] → P PmM.fail)
    (h10 : ∀ v, vs = [v] → sortNat rem = [] → P (Pm.set H start v))
    (hn0 : 2 ≤ vs.length → sortNat rem = [] → P (Pm.setRange S H start vs))
    (h01 : ∀ x, vs = [] → sortNat rem = [x] → P (Pm.delete H dflt x))
    (h0n : ∀ x y r, vs = [] → sortNat rem = x :: y :: r → P (Pm.removeIndices S H dflt (x :: y :: r)))
    (hnn : ∀ x r, vs ≠ [] → sortNat rem = x :: r →
      P (Pm.removeIndicesAndSetLeaves S H dflt start vs (x :: r))) :
    P (Pm.overrideRange S H dflt start vs rem) := by
  unfold Pm.overrideRange
  generalize sortNat rem = idx at *
  match vs, idx with
  | [], [] => exact h00 rfl rfl
  | [v], [] => exact h10 v rfl rfl
  | a :: b :: r, [] => exact hn0 (by simp) rfl
  | [], [x] => exact h01 x rfl rfl
  | [], x :: y :: r => exact h0n x y r rfl rfl
  | [a], x :: r => exact hnn x r (by simp) rfl
  | a :: b :: l, x :: r => exact hnn x r (by simp) rfl

theorem sp_overrideRange (H : α → α → α) (dflt : α) (start : Nat) (vs : List α) (rem : List Nat) (t : Pm α D) :
    Spec t.depth (fun p => addressed t (.op (.batch start vs rem)) p ∨ overshoot (.op (.batch start vs rem)) p)
      t (Pm.overrideRange S H dflt start vs rem t) := by
  have hmem : ∀ {y}, y ∈ sortNat rem → y ∈ rem := fun h => (mem_sortNat _ rem).mp h
  have hspan : ∀ lo hi, lo ∈ sortNat rem → hi ∈ sortNat rem → ∀ p, lo ≤ p → p ≤ hi →
      addressed t (.op (.batch start vs rem)) p := fun lo hi hlo hhi p h1 h2 =>
    Or.inr ⟨List.ne_nil_of_mem (hmem hlo), lo, hi, List.mem_cons_of_mem _ (hmem hlo),
      List.mem_cons_of_mem _ (hmem hhi), h1, h2⟩
  refine overrideRange_cases S H dflt start vs rem (P := fun m => Spec _ _ t (m t))
    (fun _ _ => Spec.stay t _) (fun v hv _ => ?_)
    (fun _ _ => Spec.mono (sp_setRange H start vs t) fun p hp => Or.inl (Or.inl hp))
    (fun x _ hidx => ?_) (fun x y r _ hidx => ?_) (fun x r hvs hidx => ?_)
  · subst hv
    exact sp_set H start v t (Or.inl (Or.inl (by simp)))
  · rw [hidx] at hspan
    exact sp_delete H dflt x t
      (Or.inl (hspan x x List.mem_cons_self List.mem_cons_self x (Nat.le_refl _) (Nat.le_refl _)))
  · rw [hidx] at hspan
    exact Spec.mono (sp_removeIndices H dflt (x :: y :: r) t) fun p hp =>
      Or.inl (hspan x _ List.mem_cons_self List.getLastD_mem_cons p hp.1 hp.2)
  · rw [hidx] at hmem
    refine Spec.mono (sp_removeIndicesAndSetLeaves H dflt start vs (x :: r) t) fun p hp =>
      Or.inr ⟨hvs, List.ne_nil_of_mem (hmem List.mem_cons_self), hp.1, ?_⟩
    rw [hidx]
    exact hp.2

theorem sp_setMetadata (md : List UInt8) (t : Pm α D) :
    Spec dp A t (Pm.setMetadata md t) :=
  Spec.bind (sp_put_other t (by simp) (by simp)) (fun _ s' => Spec.same rfl rfl rfl)

theorem call_spec (S : Type) [MapLike S (Nat × Nat) α] [LawfulMapLike S (Nat × Nat) α]
    (H : α → α → α) (dflt : α) (t : Pm α D) (c : PmCall α) (hc : c ≠ .op .reset) :
    Spec t.depth (fun p => addressed t c p ∨ overshoot c p) t (Pm.call S H dflt t c) := by
  cases c with
  | op o =>
    cases o with
    | set i v => exact sp_set H i v t (Or.inl rfl)
    | delete i => exact sp_delete H dflt i t (Or.inl rfl)
    | append v => exact sp_set H t.next v t (Or.inl rfl)  -- `update_next` is `set` at `t.next`
    | setRange start vs => exact Spec.mono (sp_setRange H start vs t) (fun p hp => Or.inl hp)
    | batch start vs rem => exact sp_overrideRange H dflt start vs rem t
    | reset => exact absurd rfl hc
  | setMetadata md => exact sp_setMetadata md t
  | flush => exact sp_flush t

/-! ## creation and histories -/

/-- what every state of a history keeps; the last clause is what `load` reads the root from -/
def Hist (H : α → α → α) (dflt : α) (d : Nat) (t : Pm α D) : Prop :=
  t.depth = d ∧ t.cache = (mkCache H dflt d [dflt]).toArray ∧
    ∃ v, MapLike.get? t.db.kv (PmKey.node 0 0) = some (PmVal.fr v)

theorem new_hist (H : α → α → α) (dflt : α) (d : Nat) :
    Hist H dflt d (Pm.new (D := D) H dflt d { kv := MapLike.empty }).1 := by
  obtain ⟨db, hnew, -, -, -, -, hroot⟩ := new_ok (D := D) H dflt d _ rfl
  rw [hnew]
  exact ⟨rfl, rfl, hroot⟩

theorem step_hist (S : Type) [MapLike S (Nat × Nat) α] [LawfulMapLike S (Nat × Nat) α]
    (H : α → α → α) (dflt : α) (d : Nat) (t : Pm α D) (h : Hist H dflt d t) (op : TreeOp α) :
    Hist H dflt d (Pm.step S H dflt t op) := by
  by_cases hop : op = .reset
  · subst hop
    show Hist H dflt d (Pm.new H dflt t.depth { kv := MapLike.empty }).1
    rw [h.1]
    exact new_hist H dflt d
  · have hu := (call_spec S H dflt t (.op op) fun hc => hop (PmCall.op.inj hc)).1
    exact ⟨hu.depth.trans h.1, hu.cache.trans h.2.1, hu.fr 0 0 h.2.2⟩

theorem run_hist (S : Type) [MapLike S (Nat × Nat) α] [LawfulMapLike S (Nat × Nat) α]
    (H : α → α → α) (dflt : α) (d : Nat) (ops : List (TreeOp α)) :
    Hist H dflt d (Pm.run (D := D) S H dflt d ops) :=
  List.foldlRecOn ops _ (new_hist H dflt d) fun t h op _ => step_hist S H dflt d t h op

/-! ## what `load` and `metadata()` read back -/

section
variable {α D : Type} [MapLike D PmKey (PmVal α)]

theorem load_depth (H : α → α → α) (dflt : α) (a : Nat) (kv : D) (n : Nat)
    (h : MapLike.get? kv PmKey.depthKey = some (PmVal.num n)) :
    (load H dflt a { kv := kv }).depth = n := by
  unfold load
  rw [h]

theorem getMetadata_stored {t : Pm α D} {b : List UInt8}
    (hk : MapLike.get? t.db.kv PmKey.metaKey = some (PmVal.bytes b))
    (hm : t.metadata = [] ∨ t.metadata = b) : getMetadata t = b := by
  unfold getMetadata
  split
  · next hne =>
    rcases hm with h | h
    · rw [h] at hne
      cases hne
    · exact h
  · rw [hk]

variable [Inhabited α]

theorem load_getElem (H : α → α → α) (dflt : α) (a : Nat) (t : Pm α D)
    (hd : (load H dflt a { kv := t.db.kv }).depth = t.depth)
    (hc : t.cache = (mkCache H dflt t.depth [dflt]).toArray) (l i : Nat) :
    (load H dflt a { kv := t.db.kv }).getElem l i = t.getElem l i := by
  have hc' : (load H dflt a { kv := t.db.kv }).cache = t.cache := by
    show (mkCache H dflt (load H dflt a { kv := t.db.kv }).depth [dflt]).toArray = t.cache
    rw [hd, hc]
  exact getElem_congr (t' := load H dflt a { kv := t.db.kv }) (t := t) hc' rfl

theorem load_eq (H : α → α → α) (dflt : α) (a : Nat) {t : Pm α D} (hinv : Inv H t)
    (hc : t.cache = (mkCache H dflt t.depth [dflt]).toArray)
    (hr : ∃ v, MapLike.get? t.db.kv (PmKey.node 0 0) = some (PmVal.fr v)) :
    (load H dflt a { kv := t.db.kv }).depth = t.depth ∧ (load H dflt a { kv := t.db.kv }).next = t.next ∧
      (load H dflt a { kv := t.db.kv }).root = t.root ∧
      ∀ l i, (load H dflt a { kv := t.db.kv }).getElem l i = t.getElem l i := by
  obtain ⟨v, hv⟩ := hr
  have hd := load_depth H dflt a t.db.kv _ hinv.stored_depth
  refine ⟨hd, ?_, ?_, load_getElem H dflt a t hd hc⟩
  · unfold load
    rw [hinv.stored_next]
  · rw [hinv.root_eq, getElem_of_get? hv]
    unfold load
    rw [hv]

end

end Pm

/-! ## the statements -/

section Main
variable (D : Type) [MapLike D PmKey (PmVal α)] [LawfulMapLike D PmKey (PmVal α)]
  (S : Type) [MapLike S (Nat × Nat) α] [LawfulMapLike S (Nat × Nat) α] (H : α → α → α) (dflt : α)

theorem Pm.cache_stable : Pm.CacheStmt D S H dflt := by
  refine ⟨fun d => (Pm.new_hist H dflt d).2.1, ?_⟩
  intro t op hop
  have h := (Pm.call_spec S H dflt t (.op op) fun hc => hop (PmCall.op.inj hc)).1
  exact ⟨h.cache, h.depth⟩

omit [Inhabited α] in
theorem Pm.metadata_survives : Pm.MetadataStmt D H dflt := by
  intro t md a hf
  have hrun : Pm.setMetadata md t =
      ({ t.putKv PmKey.metaKey (PmVal.bytes md) with metadata := md }, .ok ()) := by
    unfold Pm.setMetadata
    rw [PmM.bind_ok (Pm.put_ok t hf)]
    rfl
  have hk : MapLike.get? (t.putKv PmKey.metaKey (PmVal.bytes md)).db.kv PmKey.metaKey =
      some (PmVal.bytes md) := by rw [Pm.get?_putKv, if_pos rfl]
  show (Pm.setMetadata md t).2 = .ok () ∧ Pm.getMetadata (Pm.setMetadata md t).1 = md ∧
    Pm.getMetadata (Pm.load H dflt a { kv := (Pm.setMetadata md t).1.db.kv }) = md
  rw [hrun]
  exact ⟨rfl, Pm.getMetadata_stored hk (Or.inr rfl), Pm.getMetadata_stored hk (Or.inl rfl)⟩

theorem Pm.failure_reported : Pm.FailureReportedStmt D S H dflt := by
  intro t c f hc hf hle
  obtain ⟨h1, h2, h3⟩ := (Pm.call_spec S H dflt t c hc).2 f hf hle
  exact ⟨h1, h2, h3 ()⟩

end Main

end Zk.Tree
