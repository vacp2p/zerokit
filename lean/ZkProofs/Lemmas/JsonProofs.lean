import ZkProofs.Lemmas.JsonDefs
import ZkProofs.Lemmas.BytesProofs
import Std.Data.String.ToNat
/-!
# Proofs of the statements about the JSON witness codec

On a witness in range the encoder returns the object `encObj w`, and `lookup_encObj` reads each of
its fields back; the round trip, injectivity and the agreement with the byte layout follow from
these two. The statements about the decoder are inversions of `decodeFields`: a field it returns
went through `ark_de` of a field element, which rejects a non-canonical value (`arkFr_lt`) and reads
32 bytes whatever follows them (`arkFr_append`, which is why a longer `x` array decodes alike).
-/
namespace Zk.Json
open Zk.Codec Zk.Protocol Zk.Proto

theorem asBytes_bytesVal (bs : List UInt8) : asBytes (bytesVal bs) = some bs := by
  simp only [asBytes, bytesVal, List.all_map, List.map_map]
  rw [if_pos (by simpa using fun x _ => x.toNat_lt)]
  simp [Function.comp_def]

theorem asBytes_append (l extra : List Nat) (bs : List UInt8) (h : asBytes (.nums l) = some bs)
    (he : ∀ b ∈ extra, b < 256) :
    asBytes (.nums (l ++ extra)) = some (bs ++ extra.map (·.toUInt8)) := by
  simp only [asBytes] at h ⊢
  split at h
  · next hall =>
    have : (l ++ extra).all (· < 256) = true := by
      simp only [List.all_append, hall, Bool.true_and, List.all_eq_true]
      intro b hb
      simpa using he b hb
    cases h
    simp only [this, if_true, List.map_append]
  · cases h

/-! ## `ark_de` of field elements -/

theorem arkFr_frToBytesLe (v : Nat) (h : v < P) : arkFr (frToBytesLe v) = some v := by
  simp [arkFr, h]

theorem arkFr_append (bs extra : List UInt8) (v : Nat) (h : arkFr bs = some v) :
    arkFr (bs ++ extra) = some v := by
  unfold arkFr at h ⊢
  split at h
  · cases h
  · rw [if_neg (by simp; omega), List.take_append_of_le_length (by omega)]
    exact h

theorem arkFrsLoop_flatten (l : List Nat) (hl : ∀ e ∈ l, e < P) (acc : List Nat) :
    arkFrsLoop l.length (l.map frToBytesLe).flatten acc = some (acc.reverse ++ l) := by
  induction l generalizing acc with
  | nil => simp [arkFrsLoop]
  | cons e r ih =>
    simp [arkFrsLoop, arkFr_append _ _ _ (arkFr_frToBytesLe e (hl e List.mem_cons_self)),
      ih (fun x hx => hl x (List.mem_cons_of_mem _ hx))]

theorem arkFrs_vec (l : List Nat) (hl : ∀ e ∈ l, e < P) (hn : l.length < 2 ^ 64) :
    arkFrs (vecFrToBytesLe l) = some l := by
  simp [arkFrs, vecFrToBytesLe, arkFrsLoop_flatten l hl, hn]

theorem arkFr_lt {bs : List UInt8} {v : Nat} (h : arkFr bs = some v) : v < P := by
  unfold arkFr at h
  split at h
  · cases h
  · simp only at h
    split at h
    · cases h
      assumption
    · cases h

theorem arkFrsLoop_lt {n : Nat} {bs : List UInt8} {acc l : List Nat}
    (h : arkFrsLoop n bs acc = some l) (ha : ∀ e ∈ acc, e < P) : ∀ e ∈ l, e < P := by
  induction n generalizing bs acc with
  | zero =>
    cases h
    simpa using ha
  | succ n ih =>
    simp only [arkFrsLoop] at h
    split at h
    · cases h
    · next v hv =>
      refine ih h fun e he => ?_
      rcases List.mem_cons.mp he with rfl | he
      · exact arkFr_lt hv
      · exact ha e he

theorem arkFrs_lt {bs : List UInt8} {l : List Nat} (h : arkFrs bs = some l) : ∀ e ∈ l, e < P := by
  unfold arkFrs at h
  split at h
  · cases h
  · exact arkFrsLoop_lt h (by simp)

theorem frField_lt {o : JObj} {k : String} {v : Nat} (h : frField o k = some v) : v < P := by
  obtain ⟨bs, -, hb⟩ := Option.bind_eq_some_iff.mp h
  exact arkFr_lt hb

/-! ## the encoders -/

theorem rangeCheck_err (a b : Nat) : messageIdRangeCheck a b = .err ↔ b ≤ a := by
  unfold messageIdRangeCheck
  split <;> simp <;> omega

theorem encode_err : JsonEncodeErrStmt := by
  intro w
  unfold witnessToJson witnessToBigintJson messageIdRangeCheck
  by_cases h : w.messageId ≥ w.userMessageLimit <;> simp [h]

def encObj (w : Witness) : JObj :=
  [("external_nullifier", bytesVal (frToBytesLe w.externalNullifier)),
   ("identity_path_index", bytesVal w.identityPathIndex),
   ("identity_secret", bytesVal (frToBytesLe w.identitySecret)),
   ("message_id", bytesVal (frToBytesLe w.messageId)),
   ("path_elements", bytesVal (vecFrToBytesLe w.pathElements)),
   ("user_message_limit", bytesVal (frToBytesLe w.userMessageLimit)),
   ("x", bytesVal (frToBytesLe w.x))]

theorem toJson_of_lt (w : Witness) (h : w.messageId < w.userMessageLimit) :
    witnessToJson w = .ok (encObj w) := by
  unfold witnessToJson
  rw [(messageIdRangeCheck_ok _ _).mpr h]
  rfl

theorem toJson_ok {w : Witness} {o : JObj} (h : witnessToJson w = .ok o) :
    o = encObj w ∧ w.messageId < w.userMessageLimit := by
  by_cases hc : w.messageId < w.userMessageLimit
  · rw [toJson_of_lt w hc] at h
    cases h
    exact ⟨rfl, hc⟩
  · rw [(encode_err w).1.mpr (by omega)] at h
    cases h

theorem lookup_encObj (w : Witness) :
    (lookup (encObj w) "identity_secret").bind asBytes = some (frToBytesLe w.identitySecret) ∧
    (lookup (encObj w) "user_message_limit").bind asBytes = some (frToBytesLe w.userMessageLimit) ∧
    (lookup (encObj w) "message_id").bind asBytes = some (frToBytesLe w.messageId) ∧
    (lookup (encObj w) "path_elements").bind asBytes = some (vecFrToBytesLe w.pathElements) ∧
    (lookup (encObj w) "identity_path_index").bind asBytes = some w.identityPathIndex ∧
    (lookup (encObj w) "x").bind asBytes = some (frToBytesLe w.x) ∧
    (lookup (encObj w) "external_nullifier").bind asBytes = some (frToBytesLe w.externalNullifier) := by
  simp [encObj, lookup, List.find?, asBytes_bytesVal]

/-! ## round trip -/

theorem fromJson_encObj (w : Witness) (hc : CanonW w) (hlt : w.messageId < w.userMessageLimit) :
    witnessFromJson (encObj w) = .ok w := by
  obtain ⟨h1, h2, h3, h4, h5, h6, h7, -⟩ := hc
  have hd : decodeFields (encObj w) = some w := by
    obtain ⟨l1, l2, l3, l4, l5, l6, l7⟩ := lookup_encObj w
    unfold decodeFields frField
    rw [l1, l2, l3, l4, l5, l6, l7]
    simp only [Option.bind_some, arkFr_frToBytesLe _ h1, arkFr_frToBytesLe _ h2,
      arkFr_frToBytesLe _ h3, arkFr_frToBytesLe _ h4, arkFr_frToBytesLe _ h5,
      arkFrs_vec _ h6 h7]
  unfold witnessFromJson
  rw [hd]
  simp only
  rw [(messageIdRangeCheck_ok _ _).mpr hlt]

theorem roundtrip : JsonRoundtripStmt := fun w hc hlt =>
  ⟨encObj w, toJson_of_lt w hlt, fromJson_encObj w hc hlt⟩

theorem encode_injective : JsonEncodeInjectiveStmt := by
  intro w w' o hc hc' h h'
  obtain ⟨rfl, hlt⟩ := toJson_ok h
  obtain ⟨he, hlt'⟩ := toJson_ok h'
  have hd := fromJson_encObj w' hc' hlt'
  rw [← he, fromJson_encObj w hc hlt] at hd
  exact Outcome.ok.inj hd

theorem matches_bytes : JsonMatchesBytesStmt := by
  intro w o h
  obtain ⟨rfl, hlt⟩ := toJson_ok h
  obtain ⟨l1, l2, l3, l4, l5, l6, l7⟩ := lookup_encObj w
  refine ⟨_, _, _, _, _, _, _, l1, l2, l3, l4, l5, l6, l7, ?_⟩
  unfold serializeWitness
  rw [(messageIdRangeCheck_ok _ _).mpr hlt]
  rfl

/-! ## the decoder -/

theorem fromJson_ok {o : JObj} {w : Witness} (h : witnessFromJson o = .ok w) :
    w.messageId < w.userMessageLimit ∧
    frField o "identity_secret" = some w.identitySecret ∧
    frField o "user_message_limit" = some w.userMessageLimit ∧
    frField o "message_id" = some w.messageId ∧
    ((lookup o "path_elements").bind asBytes).bind arkFrs = some w.pathElements ∧
    frField o "x" = some w.x ∧ frField o "external_nullifier" = some w.externalNullifier := by
  unfold witnessFromJson decodeFields at h
  split at h
  · cases h
  · next w' hw =>
    split at hw
    · next hs hlim hmid hpath _ hx he =>
      cases hw
      split at h
      · next hm =>
        cases h
        exact ⟨(messageIdRangeCheck_ok _ _).mp hm, hs, hlim, hmid, hpath, hx, he⟩
      · cases h
      · cases h
    · cases hw

theorem decode_canonical : JsonDecodeCanonicalStmt := by
  intro o w h
  obtain ⟨hlt, hs, hlim, hmid, hpath, hx, he⟩ := fromJson_ok h
  obtain ⟨bs, -, hb⟩ := Option.bind_eq_some_iff.mp hpath
  exact ⟨frField_lt hs, frField_lt hlim, frField_lt hmid, frField_lt hx, frField_lt he,
    arkFrs_lt hb, hlt⟩

theorem lookup_cons (k k' : String) (v : JVal) (o : JObj) :
    lookup ((k, v) :: o) k' = if k == k' then some v else lookup o k' := by
  simp only [lookup, List.find?_cons]
  split <;> simp [*]

theorem decoder_ignores_trailing : JsonDecoderIgnoresTrailingStmt := by
  intro o w extra h he l hl
  have hx : frField (("x", .nums (l ++ extra)) :: o) "x" = frField o "x" := by
    obtain ⟨-, -, -, -, -, hxv, -⟩ := fromJson_ok h
    simp only [frField, lookup_cons, beq_self_eq_true, ↓reduceIte, hl, Option.bind_some] at hxv ⊢
    obtain ⟨bs, hb, hv⟩ := Option.bind_eq_some_iff.mp hxv
    rw [asBytes_append l extra bs hb he, hb, Option.bind_some, Option.bind_some, hv,
      arkFr_append _ _ _ hv]
  unfold witnessFromJson decodeFields at h ⊢
  rw [hx]
  -- every other key is looked up in `o`
  simp only [frField, lookup_cons, String.reduceBEq, Bool.false_eq_true, ↓reduceIte]
  exact h

/-! ## the decimal export -/

theorem mapM_toNat_repr (l : List Nat) : (l.map Nat.repr).mapM String.toNat? = some l := by
  induction l with
  | nil => rfl
  | cons a r ih =>
    simp only [List.map_cons, List.mapM_cons, Nat.toNat?_repr, ih]
    rfl

theorem readDecimals_decimals (l : List Nat) : readDecimals (decimals l) = some l := by
  cases l with
  | nil => rfl
  | cons a r =>
    simp only [decimals, List.isEmpty_cons, Bool.false_eq_true, if_false, readDecimals]
    exact mapM_toNat_repr _

theorem bigint : BigintJsonStmt := by
  intro w o h
  unfold witnessToBigintJson messageIdRangeCheck at h
  by_cases hc : w.messageId ≥ w.userMessageLimit
  · simp [hc] at h
  · simp only [hc, if_false, Outcome.ok.injEq] at h
    subst h
    simp [lookup, List.find?, readDecimal, Nat.toNat?_repr, readDecimals_decimals]

end Zk.Json
