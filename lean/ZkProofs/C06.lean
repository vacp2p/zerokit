import ZkProofs.Lemmas.TreeRunLemmas
/-!
# C06 — every tree backend is the ideal hash tree, on every history

`Tree.Ideal` is the specification (a plain array of leaves hashed pairwise from the default leaf).
For every sequence of `set / delete / append / setRange / batch / reset` calls started from the
freshly constructed tree, the flat tree (`Tree.Full`) and the sparse tree (`Tree.Optimal`, for every
lawful map `M`) are related to the ideal tree run on the same calls; all observables coincide; a
call is accepted by a backend exactly when the specification accepts it; a rejected call changes
nothing. Generic in the node type `α`, the hash `H` and the default leaf `dflt`.

The persistent backend is in `C06Pm.lean`.
-/
namespace Zk

open Tree

variable {α : Type} [Inhabited α] (H : α → α → α) (dflt : α)

def C06.exH : Nat → Nat → Nat := fun a b => 1000 * a + b + 7
/-- depth 2 (capacity 4); `set 9 1` is rejected, `delete 0` resets a written leaf -/
def C06.exOps : List (TreeOp Nat) := [.set 1 5, .set 9 1, .append 3, .set 0 8, .delete 0]
abbrev C06.ExM := AList (Nat × Nat) Nat

/-! ## FullMerkleTree -/

theorem C06_full_refines : ∀ (d : Nat) (ops : List (TreeOp α)),
    Tree.Full.Rel H dflt (Tree.Full.run H dflt d ops) (Tree.Ideal.run dflt d ops) :=
  fun d ops => Full.run_rel H dflt d ops

example := C06_full_refines C06.exH 0 2 C06.exOps
example : (Tree.Full.run C06.exH 0 2 C06.exOps).root = 15014 ∧
    (Tree.Ideal.run 0 2 C06.exOps).root C06.exH 0 = 15014 := by decide

theorem C06_full_observables : ∀ (d : Nat) (ops : List (TreeOp α)),
    (Tree.Full.run H dflt d ops).root = (Tree.Ideal.run dflt d ops).root H dflt ∧
    (Tree.Full.run H dflt d ops).next = (Tree.Ideal.run dflt d ops).next ∧
    (∀ i, (Tree.Full.run H dflt d ops).get i =
      if i < 2 ^ d then .ok ((Tree.Ideal.run dflt d ops).leaf dflt i) else .err) ∧
    (∀ l i, (Tree.Full.run H dflt d ops).getSubtreeRoot l i =
      if l > d ∨ i ≥ 2 ^ d then .err
      else .ok ((Tree.Ideal.run dflt d ops).node H dflt l (i / 2 ^ (d - l)))) := by
  intro d ops
  have h := Full.obs_eq H dflt _ _ (C06_full_refines H dflt d ops)
  rw [Ideal.run_depth] at h
  obtain ⟨hroot, hnext, hget, hsub, -, -⟩ := h
  exact ⟨hroot, hnext, hget, hsub⟩

example : (Tree.Full.run C06.exH 0 2 C06.exOps).next = 3 ∧
    (Tree.Full.run C06.exH 0 2 C06.exOps).get 1 = .ok 5 ∧
    (Tree.Full.run C06.exH 0 2 C06.exOps).get 0 = .ok 0 ∧
    (Tree.Full.run C06.exH 0 2 C06.exOps).get 4 = .err ∧
    (Tree.Full.run C06.exH 0 2 C06.exOps).getSubtreeRoot 1 3 = .ok 3007 ∧
    (Tree.Ideal.run 0 2 C06.exOps).node C06.exH 0 1 1 = 3007 := by decide

/-- on every reachable state, the flat tree accepts a call iff the specification does -/
theorem C06_full_accepts_iff : ∀ (d : Nat) (ops : List (TreeOp α)) (op : TreeOp α),
    Tree.Full.stepOut H dflt (Tree.Full.run H dflt d ops) op = true ↔
    Tree.Ideal.stepOut dflt (Tree.Ideal.run dflt d ops) op = true := by
  intro d ops op
  rw [Full.stepOut_eq H dflt (C06_full_refines H dflt d ops) op]

example : Tree.Full.stepOut C06.exH 0 (Tree.Full.run C06.exH 0 2 [.set 1 5]) (.set 9 1) = false ∧
    Tree.Ideal.stepOut 0 (Tree.Ideal.run 0 2 [.set 1 5]) (.set 9 1) = false ∧
    Tree.Full.stepOut C06.exH 0 (Tree.Full.run C06.exH 0 2 [.set 1 5]) (.set 3 1) = true ∧
    Tree.Ideal.stepOut 0 (Tree.Ideal.run 0 2 [.set 1 5]) (.set 3 1) = true := by decide

/-- a call the specification rejects leaves the flat tree (and the specification) exactly as it was -/
theorem C06_full_rejected_changes_nothing : ∀ (d : Nat) (ops : List (TreeOp α)) (op : TreeOp α),
    Tree.Ideal.stepOut dflt (Tree.Ideal.run dflt d ops) op = false →
    Tree.Full.step H dflt (Tree.Full.run H dflt d ops) op = Tree.Full.run H dflt d ops ∧
    Tree.Ideal.step dflt (Tree.Ideal.run dflt d ops) op = Tree.Ideal.run dflt d ops :=
  fun d ops op hr => (Full.applyOp_refines H dflt (C06_full_refines H dflt d ops) op).rejected
    (Ideal.applyOp_of_rejected hr)

example := C06_full_rejected_changes_nothing C06.exH 0 2 [.set 1 5] (.setRange 3 [1, 2]) (by decide)

/-! ## OptimalMerkleTree, for every lawful node map `M` -/

variable (M : Type) [MapLike M (Nat × Nat) α] [LawfulMapLike M (Nat × Nat) α]

theorem C06_optimal_refines : ∀ d : Nat, 0 < d → ∀ ops : List (TreeOp α),
    Tree.Optimal.Rel H dflt (Tree.Optimal.run (M := M) H dflt d ops) (Tree.Ideal.run dflt d ops) :=
  fun d hd ops => Optimal.run_rel M H dflt d hd ops

example := C06_optimal_refines C06.exH 0 C06.ExM 2 (by decide) C06.exOps
example : (Tree.Optimal.run (M := C06.ExM) C06.exH 0 2 C06.exOps).root = 15014 := by decide

theorem C06_optimal_observables : ∀ d : Nat, 0 < d → ∀ ops : List (TreeOp α),
    (Tree.Optimal.run (M := M) H dflt d ops).root = (Tree.Ideal.run dflt d ops).root H dflt ∧
    (Tree.Optimal.run (M := M) H dflt d ops).next = (Tree.Ideal.run dflt d ops).next ∧
    (∀ i, (Tree.Optimal.run (M := M) H dflt d ops).get i =
      if i < 2 ^ d then .ok ((Tree.Ideal.run dflt d ops).leaf dflt i) else .err) ∧
    (∀ l i, (Tree.Optimal.run (M := M) H dflt d ops).getSubtreeRoot l i =
      if l > d ∨ i ≥ 2 ^ d then .err
      else .ok ((Tree.Ideal.run dflt d ops).node H dflt l (i / 2 ^ (d - l)))) := by
  intro d hd ops
  have h := Optimal.obs_eq M H dflt _ _ (C06_optimal_refines H dflt M d hd ops)
  rw [Ideal.run_depth] at h
  obtain ⟨hroot, hnext, hget, hsub, -, -⟩ := h
  exact ⟨hroot, hnext, hget, hsub⟩

example : (Tree.Optimal.run (M := C06.ExM) C06.exH 0 2 C06.exOps).next = 3 ∧
    (Tree.Optimal.run (M := C06.ExM) C06.exH 0 2 C06.exOps).get 1 = .ok 5 ∧
    (Tree.Optimal.run (M := C06.ExM) C06.exH 0 2 C06.exOps).get 0 = .ok 0 ∧
    (Tree.Optimal.run (M := C06.ExM) C06.exH 0 2 C06.exOps).get 4 = .err ∧
    (Tree.Optimal.run (M := C06.ExM) C06.exH 0 2 C06.exOps).getSubtreeRoot 1 3 = .ok 3007 := by decide

theorem C06_optimal_accepts_iff : ∀ d : Nat, 0 < d → ∀ (ops : List (TreeOp α)) (op : TreeOp α),
    Tree.Optimal.stepOut H dflt (Tree.Optimal.run (M := M) H dflt d ops) op = true ↔
    Tree.Ideal.stepOut dflt (Tree.Ideal.run dflt d ops) op = true := by
  intro d hd ops op
  rw [Optimal.stepOut_eq M H dflt (C06_optimal_refines H dflt M d hd ops) op]

example :
    Tree.Optimal.stepOut C06.exH 0 (Tree.Optimal.run (M := C06.ExM) C06.exH 0 2 [.set 1 5]) (.set 9 1) = false ∧
    Tree.Optimal.stepOut C06.exH 0 (Tree.Optimal.run (M := C06.ExM) C06.exH 0 2 [.set 1 5]) (.set 3 1) = true := by
  decide

theorem C06_optimal_rejected_changes_nothing : ∀ d : Nat, 0 < d →
    ∀ (ops : List (TreeOp α)) (op : TreeOp α),
    Tree.Ideal.stepOut dflt (Tree.Ideal.run dflt d ops) op = false →
    Tree.Optimal.step H dflt (Tree.Optimal.run (M := M) H dflt d ops) op
      = Tree.Optimal.run (M := M) H dflt d ops ∧
    Tree.Ideal.step dflt (Tree.Ideal.run dflt d ops) op = Tree.Ideal.run dflt d ops :=
  fun d hd ops op hr => (Optimal.applyOp_refines M H dflt (C06_optimal_refines H dflt M d hd ops) op).rejected
    (Ideal.applyOp_of_rejected hr)

example := C06_optimal_rejected_changes_nothing C06.exH 0 C06.ExM 2 (by decide) [.set 1 5]
  (.batch 0 [] []) (by decide)

/-- both backends: a call the specification rejects changes nothing -/
theorem C06_rejected_changes_nothing : ∀ d : Nat, 0 < d →
    ∀ (ops : List (TreeOp α)) (op : TreeOp α),
    Tree.Ideal.stepOut dflt (Tree.Ideal.run dflt d ops) op = false →
    Tree.Full.step H dflt (Tree.Full.run H dflt d ops) op = Tree.Full.run H dflt d ops ∧
    Tree.Optimal.step H dflt (Tree.Optimal.run (M := M) H dflt d ops) op
      = Tree.Optimal.run (M := M) H dflt d ops :=
  fun d hd ops op hr => ⟨(C06_full_rejected_changes_nothing H dflt d ops op hr).1,
    (C06_optimal_rejected_changes_nothing H dflt M d hd ops op hr).1⟩

example := C06_rejected_changes_nothing C06.exH 0 C06.ExM 2 (by decide) [.set 1 5] (.set 4 1) (by decide)

/-! ## the two in-memory backends cannot be told apart -/

theorem C06_backends_agree : ∀ d : Nat, 0 < d → ∀ ops : List (TreeOp α),
    (Tree.Full.run H dflt d ops).root = (Tree.Optimal.run (M := M) H dflt d ops).root ∧
    (Tree.Full.run H dflt d ops).next = (Tree.Optimal.run (M := M) H dflt d ops).next ∧
    (∀ i, (Tree.Full.run H dflt d ops).get i = (Tree.Optimal.run (M := M) H dflt d ops).get i) ∧
    (∀ l i, (Tree.Full.run H dflt d ops).getSubtreeRoot l i =
      (Tree.Optimal.run (M := M) H dflt d ops).getSubtreeRoot l i) ∧
    (Tree.Full.run H dflt d ops).emptyIdx = (Tree.Optimal.run (M := M) H dflt d ops).emptyIdx ∧
    (∀ i, (Tree.Full.run H dflt d ops).proof i = (Tree.Optimal.run (M := M) H dflt d ops).proof i) := by
  intro d hd ops
  obtain ⟨f1, f2, f3, f4, f5, f6⟩ := Full.obs_eq H dflt _ _ (C06_full_refines H dflt d ops)
  obtain ⟨o1, o2, o3, o4, o5, o6⟩ := Optimal.obs_eq M H dflt _ _ (C06_optimal_refines H dflt M d hd ops)
  refine ⟨f1.trans o1.symm, f2.trans o2.symm, ?_, ?_, f5.trans o5.symm, ?_⟩
  · intro i; rw [f3, o3]
  · intro l i; rw [f4, o4]
  · intro i; rw [f6, o6]

example : (Tree.Full.run C06.exH 0 2 C06.exOps).emptyIdx = [0] ∧
    (Tree.Optimal.run (M := C06.ExM) C06.exH 0 2 C06.exOps).emptyIdx = [0] ∧
    (Tree.Full.run C06.exH 0 2 C06.exOps).proof 2 = .ok [(0, 0), (12, 1)] ∧
    (Tree.Optimal.run (M := C06.ExM) C06.exH 0 2 C06.exOps).proof 2 = .ok [(0, 0), (12, 1)] := by decide

end Zk
