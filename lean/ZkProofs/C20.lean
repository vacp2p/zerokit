import ZkProofs.Lemmas.GraphProofs
/-!
# C20 — the witness-graph evaluator, input placement and the graph container

`evaluate` (one pass over the node vector) returns, for every requested output, the reference
interpretation `denote` of that node; a well-formed graph never crashes on canonical inputs; the
input buffer does not depend on the iteration order of the supplied `HashMap` and every vector lands
at its declared offset; the container's own framing (LEB128 lengths, the ten-byte look-ahead with
its push-back stack, counts) and the node ↔ protobuf conversions round-trip.

At the end, kernel-checked instances of what the code does outside these hypotheses: the open finding
C20-inputs-size, and the panic on an input name the graph does not declare.
-/
namespace Zk

open Zk.Graph Zk.Graph.Storage

private def g : List Node := [.input 0, .input 1, .duo .Add 0 1, .uno .Neg 2]

/-! ## the evaluator -/

theorem C20_single_pass_is_reference_interpretation : EvalAllDenoteStmt := evalAll_denote

example : evalAll #[1, 7] g #[] = .ok #[1, 7, 8, P - 8] ∧
    denote g.toArray #[1, 7] 4 3 = .ok (P - 8) ∧ denote g.toArray #[1, 7] 3 2 = .ok 8 := by
  decide +kernel

theorem C20_outputs_are_reference_interpretation : EvaluateDenoteStmt := evaluate_denote

example : evaluate g #[1, 7] [3, 2] = .ok [P - 8, 8] ∧
    denote g.toArray #[1, 7] ([3, 2][0]! + 1) [3, 2][0]! = .ok (P - 8) := by
  decide +kernel

theorem C20_wellformed_never_crashes : EvaluateTotalStmt := evaluate_total

/-- the hypotheses are satisfiable; without them the evaluator does crash (forward reference, `Pow`) -/
example : WellFormed g (#[1, 7] : Array Nat).size ∧ (∀ i, i < (#[1, 7] : Array Nat).size → (#[1, 7] : Array Nat)[i]! < P) ∧
    (∀ o ∈ [3, 2], o < g.length) ∧
    evaluate [.input 0, .duo .Add 0 2, .input 1] #[1, 7] [1] = .panic ∧
    evaluate [.input 0, .duo .Pow 0 0] #[1, 7] [1] = .panic := by
  decide +kernel

/-! ## input placement -/

private def info2 : List (String × Nat × Nat) := [("a", 1, 2), ("b", 3, 1)]

private theorem info2_fit : InputsFit info2 [("a", [5, 6]), ("b", [7])] := by
  refine ⟨by decide +kernel, ?_⟩
  intro e he
  simp only [List.mem_cons, List.not_mem_nil, or_false] at he
  rcases he with rfl | rfl
  · exact ⟨1, 2, by decide +kernel, rfl⟩
  · exact ⟨3, 1, by decide +kernel, rfl⟩

private theorem info2_layout : LayoutOk info2 (#[1, 0, 0, 0] : Array Nat).size := by
  unfold LayoutOk; decide +kernel

theorem C20_input_order_irrelevant : PopulatePermStmt := populate_perm

example : LayoutOk info2 (#[1, 0, 0, 0] : Array Nat).size ∧ InputsFit info2 [("a", [5, 6]), ("b", [7])] ∧
    [("b", [7]), ("a", [5, 6])].Perm [("a", [5, 6]), ("b", [7])] ∧
    populateInputs info2 [("b", [7]), ("a", [5, 6])] #[1, 0, 0, 0] = .ok #[1, 5, 6, 7] ∧
    populateInputs info2 [("a", [5, 6]), ("b", [7])] #[1, 0, 0, 0] = .ok #[1, 5, 6, 7] :=
  ⟨info2_layout, info2_fit, List.Perm.swap _ _ _, by decide +kernel, by decide +kernel⟩

theorem C20_inputs_at_declared_offsets : PopulatePlacesStmt := populate_places

/-- a partial assignment: `b` lands at offset 3, the cells of `a` and position 0 keep their content -/
example : LayoutOk info2 (#[1, 0, 0, 0] : Array Nat).size ∧ InputsFit info2 [("b", [7])] ∧
    populateInputs info2 [("b", [7])] #[1, 0, 0, 0] = .ok #[1, 0, 0, 7] :=
  ⟨info2_layout, ⟨by decide +kernel, fun e he => by
    simp only [List.mem_cons, List.not_mem_nil, or_false] at he
    subst he; exact ⟨3, 1, by decide +kernel, rfl⟩⟩, by decide +kernel⟩

/-! ## the container -/

theorem C20_varint_roundtrip : VarintStmt := encVarint_spec

example : encVarint 300 = [0xAC, 0x02] ∧ decVarint 10 (encVarint 300 ++ [9, 9]) = some (300, 2) ∧
    (encVarint (2 ^ 64 - 1)).length = 10 ∧ decVarint 10 (encVarint (2 ^ 64 - 1)) = some (2 ^ 64 - 1, 10) := by
  decide +kernel

theorem C20_pushback_reader_in_order : WriteBackStmt := writeback_reader

/-- twelve bytes, a two-byte length prefix: the eight surplus look-ahead bytes are pushed back (in
    reverse); the next read continues at byte 2 and crosses from the stack into the reader -/
example :
    let bytes : List UInt8 := [0, 1, 2, 3, 4, 5, 6, 7, 8, 9, 10, 11]
    let r0 : WBR := { reader := bytes, buffer := [] }
    let (look, r1) := r0.read 10
    let r2 := r1.write (look.drop 2)
    look = [0, 1, 2, 3, 4, 5, 6, 7, 8, 9] ∧ r2.buffer = [9, 8, 7, 6, 5, 4, 3, 2] ∧
    (r2.read 5).1 = [2, 3, 4, 5, 6] ∧ (r2.read 10).1 = [2, 3, 4, 5, 6, 7, 8, 9, 10, 11] := by
  decide +kernel

theorem C20_container_framing_roundtrip : FramingStmt := unframe_frame

example : unframe (frame [[1, 2, 3], [], [0x80, 0xFF]] [9]) = some ([[1, 2, 3], [], [0x80, 0xFF]], [9]) ∧
    (frame [[1, 2, 3], [], [0x80, 0xFF]] [9]).length = 14 + 8 + (4 + 1 + 3) + 2 + 8 := by
  decide +kernel

theorem C20_node_conversion_roundtrip : NodeConvStmt := node_conv

/-- the hypothesis is needed: `input (2 ^ 32)` is stored as `input 0`; and an operator code outside the
    enum panics on reading -/
example : Serializable (.montConstant 256) ∧ toProto (.montConstant 256) = .ok (.constant [0, 1]) ∧
    ofProto (.constant [0, 1]) = .ok (.montConstant 256) ∧
    Serializable (.duo .Shr 7 (2 ^ 32 - 1)) ∧ toProto (.duo .Shr 7 (2 ^ 32 - 1)) = .ok (.duo 16 7 (2 ^ 32 - 1)) ∧
    ofProto (.duo 16 7 (2 ^ 32 - 1)) = .ok (.duo .Shr 7 (2 ^ 32 - 1)) ∧
    toProto (.input (2 ^ 32)) = .ok (.input 0) ∧ ofProto (.duo 20 0 0) = .panic := by
  unfold Serializable
  decide +kernel

/-! ## outside the hypotheses: open finding C20-inputs-size, an undeclared input name -/

/-- `get_inputs_size` stops at the end of the first run of input nodes: a later input node with a
    larger index reads outside the buffer (index panic) -/
theorem C20_inputs_size_stops_at_first_run :
    getInputsSize [.input 0, .input 1, .duo .Add 0 1, .input 5] false 0 = 2 ∧
    calcWitness [.input 0, .input 1, .duo .Add 0 1, .input 5] [3] [("a", 1, 1)] [("a", [7])] = .panic := by
  decide +kernel

/-- a supplied name that the graph does not declare is an index panic (`inputs_info[key]`) -/
theorem C20_unknown_input_name_panics :
    populateInputs [("a", 1, 1)] [("b", [1])] #[1, 0] = .panic := by
  decide +kernel

end Zk
