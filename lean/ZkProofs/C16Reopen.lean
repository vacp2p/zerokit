import ZkProofs.C18
import ZkModel.Generated.SledFacts
/-!
# C16 (and C18's re-create clause) — re-opening an existing tree keeps it while the file lock is merely busy

Found by running the C16 correspondence under other seeds: `SledDB::load` called `config.open()` once; when the lock of
the instance dropped a moment earlier was not released yet it failed with `WouldBlock`, `PmTree::new` took that for
"no tree here" and fell back to `MerkleTree::new`, which re-initialised the flushed database (fix 630b389).
The model is `Retry.reopenExisting` (ZkModel/Par.lean); how `load` opens the database is regenerated from
utils/src/pm_tree/sled_adapter.rs on every run (`Generated.Sled`).
-/
namespace Zk
open Retry

/-- busy answers only, then a successful open, within the ten attempts of `new_with_tries` -/
def LockFrees (outcomes : Nat → OpenResult) : Prop :=
  ∃ k, k < 10 ∧ outcomes k = .ok ∧ ∀ j, j < k → outcomes j = .wouldBlock

/-- with a `load` that opens through the retry loop, the existing tree is kept whenever the lock frees in time -/
theorem C16_reopen_keeps_tree_when_lock_frees (outcomes : Nat → OpenResult) (h : LockFrees outcomes) :
    reopenExisting true outcomes = .kept := by
  have hs : (open_ outcomes).success = true := ((C18_retry_bounded outcomes).2.1).2 h
  simp [reopenExisting, loadOpen, hs]

/-- and it is re-initialised only if the retry loop of `load` gave up (never while `LockFrees`) -/
theorem C16_reopen_reinitialises_only_when_load_gave_up (outcomes : Nat → OpenResult)
    (h : reopenExisting true outcomes = .reinitialised) : ¬ LockFrees outcomes := by
  intro hl
  rw [C16_reopen_keeps_tree_when_lock_frees outcomes hl] at h
  cases h

/-- the source as it is now: both open paths go through `new_with_tries`, ten attempts, sleeping 10^tries ms -/
theorem C16_current_source_opens_through_retry :
    Generated.Sled.loadOpensThroughRetry = some true ∧ Generated.Sled.newOpensThroughRetry = some true ∧
    Generated.Sled.retryLimit = some 10 ∧ Generated.Sled.sleepBase = some 10 := by decide

/-- hence, for the current source, a busy lock that frees in time never costs the stored tree -/
theorem C16_current_source_reopen_keeps_tree (outcomes : Nat → OpenResult) (h : LockFrees outcomes) :
    reopenExisting (Generated.Sled.loadOpensThroughRetry.getD false) outcomes = .kept := by
  rw [C16_current_source_opens_through_retry.1]
  exact C16_reopen_keeps_tree_when_lock_frees outcomes h

/-- the pinned code before the fix (single `config.open()` in `load`): ONE busy answer re-initialises the tree — the
    history the correspondence found (VERIF_SEED=2 and 4, about one reopen in a thousand) -/
theorem C16_single_open_load_loses_tree :
    LockFrees (fun k => if k = 0 then .wouldBlock else .ok) ∧
    reopenExisting false (fun k => if k = 0 then .wouldBlock else .ok) = .reinitialised := by
  refine ⟨⟨1, by decide, by decide, ?_⟩, by decide +kernel⟩
  intro j hj
  have : j = 0 := by omega
  subst this
  rfl

/-- non-vacuity: busy twice, then free -/
example : LockFrees (fun k => [OpenResult.wouldBlock, .wouldBlock, .ok].getD k .otherError) :=
  ⟨2, by decide, by decide, fun j hj => by
    have : j = 0 ∨ j = 1 := by omega
    rcases this with rfl | rfl <;> rfl⟩
example : reopenExisting true (fun k => [OpenResult.wouldBlock, .wouldBlock, .ok].getD k .otherError) = .kept := by decide +kernel
/-- a genuine error (not a busy lock) on an existing location still falls through to `new`, which then fails or not on its own -/
example : reopenExisting true (fun _ => .otherError) = .failed := by decide +kernel

end Zk
