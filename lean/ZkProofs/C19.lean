import ZkProofs.Lemmas.OpsProofs
/-!
# C19 — the operators of the witness-graph evaluator against circom's semantics

`evalFr` (Montgomery evaluator, canonical operands `< P`) returns circom's value for every operator
except `Pow` (unimplemented) and shifts by a count above `p/2`; the integer evaluator `evalU` agrees
with it inside `IntCovered`. Outside these regions the negations are kernel-checked at concrete
witnesses (the open findings C19-shift-count-above-half, C19-montgomery-unimplemented,
C19-integer-evaluator).
-/
namespace Zk

open Zk.Graph

/-! ## regenerated constants and truth tables -/

theorem C19_consts : ConstsStmt := consts_ok

example : Zk.Generated.modulusM = some P ∧ Zk.Generated.halfM = some (P / 2) ∧ 2 * (P / 2) + 1 = P := by
  decide +kernel

theorem C19_signed_comparisons : SignedCmpStmt := signedCmp_ok

/-- `P - 1` is the signed `-1`, below `3`; `P / 2` is the largest positive, `P / 2 + 1` the smallest negative -/
example : 3 < P ∧ P - 1 < P ∧ P / 2 + 1 < P ∧
    signedCmp Zk.Generated.uLt (P - 1) 3 = some 1 ∧ signedCmp Zk.Generated.uGte (P - 1) 3 = some 0 ∧
    signedCmp Zk.Generated.uLt (P / 2 + 1) (P / 2) = some 1 ∧
    signedCmp Zk.Generated.uLte (P / 2) (P / 2) = some 1 := by
  decide +kernel

/-! ## limb-level helpers -/

theorem C19_shr_limbs : ShrLimbsStmt := shr_limbs

/-- counts that take one word move and then the carry loop (70), only word moves (128), three word
    moves and then the carry loop (253) -/
example : 2 ^ 200 + 12345 < 2 ^ 256 ∧ 0 < 70 ∧ 70 < 254 ∧
    shrFr (2 ^ 200 + 12345) 70 = .ok (2 ^ 130) ∧ shrFr (2 ^ 255 + 1) 128 = .ok (2 ^ 127) ∧
    shrFr (2 ^ 255 + 2 ^ 253) 253 = .ok 5 := by
  decide +kernel

theorem C19_limbwise : LimbwiseStmt := limbwise_ok

example : 2 ^ 255 + 2 ^ 70 + 6 < 2 ^ 256 ∧ 2 ^ 255 + 3 < 2 ^ 256 ∧
    ofLimbs (List.zipWith Nat.land (toLimbs (2 ^ 255 + 2 ^ 70 + 6)) (toLimbs (2 ^ 255 + 3))) = 2 ^ 255 + 2 ∧
    ofLimbs (List.zipWith Nat.xor (toLimbs (2 ^ 255 + 2 ^ 70 + 6)) (toLimbs (2 ^ 255 + 3))) = 2 ^ 70 + 5 := by
  decide +kernel

/-! ## the Montgomery evaluator follows circom (outside the open findings) -/

theorem C19_evalFr_sem_partial : EvalFrSemStmt := evalFr_sem

/-- the hypotheses are satisfiable for a shift, at the boundary count `P / 2`, and for a non-shift
    operator with any second operand -/
example : (5 < P ∧ 3 < P ∧ FrCovered .Shl 3) ∧ (5 < P ∧ P / 2 < P ∧ FrCovered .Shr (P / 2)) ∧
    (5 < P ∧ P - 1 < P ∧ FrCovered .Sub (P - 1)) ∧
    evalFr .Shl 5 3 = .ok 40 ∧ evalFr .Sub 5 (P - 1) = .ok 6 := by
  unfold FrCovered
  decide +kernel

theorem C19_evalFr_no_panic : EvalFrNoPanicStmt := evalFr_no_panic

example : 3 < P ∧ P - 1 < P ∧ Op.Shl ≠ Op.Pow ∧ evalFr .Shl 3 (P - 1) = .ok 0 ∧
    evalFr .Div 3 0 = .ok 0 := by
  decide +kernel

theorem C19_uno : EvalFrUnoStmt := evalFrUno_sem

example : 5 < P ∧ evalFrUno .Neg 5 = .ok (P - 5) ∧ evalFrUno .Neg 0 = .ok 0 := by decide +kernel

theorem C19_tres : EvalFrTresStmt := evalFrTres_sem

example : 0 < P ∧ 7 < P ∧ 9 < P ∧ evalFrTres .TernCond 0 7 9 = .ok 9 ∧
    evalFrTres .TernCond 1 7 9 = .ok 7 := by decide +kernel

/-! ## the two evaluators agree (outside the open findings) -/

theorem C19_evaluators_agree_partial : EvalAgreeStmt := eval_agree

example : 5 < P ∧ P - 1 < P ∧ IntCovered .Sub 5 (P - 1) ∧ evalU .Sub 5 (P - 1) = .ok 6 := by
  unfold IntCovered; decide +kernel
example : P - 1 < P ∧ 253 < P ∧ IntCovered .Shr (P - 1) 253 ∧ evalU .Shr (P - 1) 253 = .ok 1 := by
  unfold IntCovered; decide +kernel
example : 5 < P ∧ 2 < P ∧ IntCovered .Bor 5 2 ∧ evalU .Bor 5 2 = .ok 7 := by
  unfold IntCovered; decide +kernel
example : 7 < P ∧ 2 < P ∧ IntCovered .Idiv 7 2 ∧ evalU .Idiv 7 2 = .ok 3 := by
  unfold IntCovered; decide +kernel

theorem C19_uno_agree : EvalAgreeUnoStmt := evalUno_agree

example : 5 < P ∧ evalUUno .Neg 5 = .ok (P - 5) := by decide +kernel

/-! ## negations at the open-finding witnesses -/

/-- circom: `3 << (p - 1)` is `3 >> 1 = 1`; the code returns `0` -/
theorem C19_shl_above_half_differs : evalFr .Shl 3 (P - 1) = .ok 0 ∧ Circom.sem .Shl 3 (P - 1) = 1 := by
  decide +kernel

/-- circom: `3 >> (p - 1)` is `3 << 1 = 6`; the code returns `0` -/
theorem C19_shr_above_half_differs : evalFr .Shr 3 (P - 1) = .ok 0 ∧ Circom.sem .Shr 3 (P - 1) = 6 := by
  decide +kernel

theorem C19_pow_unimplemented : evalFr .Pow 2 3 = .panic ∧ evalFrUno .Id 5 = .panic := by
  decide +kernel

theorem C19_int_shl_unreduced : ∃ v, evalU .Shl (P - 1) 2 = .ok v ∧ v ≥ P :=
  ⟨(P - 1) * 4 % 2 ^ 256, by decide +kernel, by decide +kernel⟩

theorem C19_int_bor_unreduced : evalU .Bor (P - 1) 1 = .ok P := by decide +kernel

theorem C19_int_div_zero_panics : evalU .Idiv 3 0 = .panic ∧ evalU .Mod 3 0 = .panic := by
  decide +kernel

end Zk
