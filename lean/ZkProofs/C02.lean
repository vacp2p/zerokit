import ZkProofs.Lemmas.BytesProofs
/-!
# C02 — what acceptance implies, and what tampering does

Over the abstract Groth16 contract `Snark`: `verify` answers `Ok(true)` only on a 288-byte message
whose proof bytes decode and whose pairing check passes on exactly the five decoded public values;
`verify_rln_proof` additionally only when the signal that follows (with its exact length) hashes to
the message's `x` and the message's root is the tree root; `verify_with_roots` only when the root is
one of the supplied roots (or none were supplied). The `exact` forms give the verdict on every
well-formed message as a conjunction, from which: a different signal, a different root, a root
outside a non-empty root set and a failing pairing check each give `Ok(false)`.
-/
namespace Zk
open Zk.Codec Zk.Protocol Zk.Public Zk.Proto

/-! ## concrete values for the non-vacuity checks -/

def C02.exV : ProofValues := ⟨P - 1, 2, 3, 4, 5⟩
/-- a toy contract: any 128 bytes decode, the "pairing check" accepts exactly the inputs of `exV` -/
def C02.exZ : Snark Unit :=
  ⟨fun bs => if bs.length = 128 then some () else none,
   fun _ ins => some (decide (ins = publicInputs C02.exV)),
   fun _ => List.replicate 128 0⟩
def C02.exPb : List UInt8 := List.replicate 128 7
def C02.exMsg : List UInt8 := C02.exPb ++ serializeProofValues C02.exV
def C02.exSignal : List UInt8 := [1, 2, 3]
def C02.exH2f : List UInt8 → Nat := fun b => b.length + 1
/-- values on which the toy pairing check fails -/
def C02.exVbad : ProofValues := ⟨P - 1, 2, 3, 4, 6⟩

/-! ## soundness of acceptance -/

theorem C02_verify_sound : ∀ {Pr : Type} (Z : Snark Pr) (bs : List UInt8), verify Z bs = .ok true →
    ∃ proof v, bs.length = 288 ∧ Z.decode (bs.take 128) = some proof ∧
      deserializeProofValues (bs.drop 128) = .ok (v, 160) ∧ Z.verify proof (publicInputs v) = some true :=
  Proto.verify_sound

example := C02_verify_sound C02.exZ C02.exMsg (by decide +kernel)

theorem C02_verifyRln_sound : ∀ {Pr : Type} (Z : Snark Pr) (h2f : List UInt8 → Nat) (root : Nat) (bs : List UInt8),
    verifyRlnProof Z h2f root bs = .ok true →
    ∃ proof v signal, Z.decode (bs.take 128) = some proof ∧
      deserializeProofValues (bs.drop 128) = .ok (v, 160) ∧
      bs = bs.take 288 ++ natLE 8 signal.length ++ signal ∧ signal.length < 2 ^ 64 ∧
      Z.verify proof (publicInputs v) = some true ∧ v.x = h2f signal ∧ v.root = root :=
  Proto.verifyRln_sound

example := C02_verifyRln_sound C02.exZ C02.exH2f 3 (prepareVerifyInput C02.exMsg C02.exSignal)
  (by decide +kernel)

theorem C02_verifyRoots_sound : ∀ {Pr : Type} (Z : Snark Pr) (h2f : List UInt8 → Nat) (bs rb : List UInt8),
    verifyWithRoots Z h2f bs rb = .ok true →
    ∃ proof v signal, Z.decode (bs.take 128) = some proof ∧
      deserializeProofValues (bs.drop 128) = .ok (v, 160) ∧
      bs = bs.take 288 ++ natLE 8 signal.length ++ signal ∧
      Z.verify proof (publicInputs v) = some true ∧ v.x = h2f signal ∧
      rb.length % 32 = 0 ∧
      (rb = [] ∨ ∃ k, k < rb.length / 32 ∧ leNat ((rb.drop (32 * k)).take 32) % P = v.root) :=
  Proto.verifyRoots_sound

example := C02_verifyRoots_sound C02.exZ C02.exH2f (prepareVerifyInput C02.exMsg C02.exSignal)
  (frToBytesLe 9 ++ frToBytesLe 3) (by decide +kernel)
example := C02_verifyRoots_sound C02.exZ C02.exH2f (prepareVerifyInput C02.exMsg C02.exSignal) []
  (by decide +kernel)

/-! ## the exact verdict on well-formed messages -/

theorem C02_verifyRln_exact : ∀ {Pr : Type} (Z : Snark Pr) (h2f : List UInt8 → Nat) (root : Nat) (pb : List UInt8)
    (v : ProofValues) (signal : List UInt8) (proof : Pr) (b : Bool),
    pb.length = 128 → CanonV v → signal.length < 2 ^ 64 → Z.decode pb = some proof →
    Z.verify proof (publicInputs v) = some b →
    verifyRlnProof Z h2f root (prepareVerifyInput (pb ++ serializeProofValues v) signal) =
      .ok (b && decide (root = v.root) && decide (h2f signal = v.x)) :=
  Proto.verifyRln_exact

example : CanonV C02.exV ∧ CanonV C02.exVbad := by decide +kernel
example := C02_verifyRln_exact C02.exZ C02.exH2f 3 C02.exPb C02.exV C02.exSignal () true
  (by decide +kernel) (by decide +kernel) (by decide +kernel) (by decide +kernel) (by decide +kernel)

theorem C02_verifyRoots_exact : ∀ {Pr : Type} (Z : Snark Pr) (h2f : List UInt8 → Nat) (roots : List Nat)
    (pb : List UInt8) (v : ProofValues) (signal : List UInt8) (proof : Pr) (b : Bool),
    pb.length = 128 → CanonV v → signal.length < 2 ^ 64 → Z.decode pb = some proof →
    Z.verify proof (publicInputs v) = some b → (∀ r ∈ roots, r < P) →
    verifyWithRoots Z h2f (prepareVerifyInput (pb ++ serializeProofValues v) signal) (roots.map frToBytesLe).flatten =
      .ok (b && decide (h2f signal = v.x) && (roots.isEmpty || roots.contains v.root)) :=
  Proto.verifyRoots_exact

example := C02_verifyRoots_exact C02.exZ C02.exH2f [9, 3] C02.exPb C02.exV C02.exSignal () true
  (by decide +kernel) (by decide +kernel) (by decide +kernel) (by decide +kernel) (by decide +kernel)
  (by decide +kernel)

/-! ## tampering corollaries -/

/-- a signal that does not hash to the message's `x` is rejected by both entry points -/
theorem C02_wrong_signal_rejected {Pr : Type} (Z : Snark Pr) (h2f : List UInt8 → Nat) (root : Nat)
    (roots : List Nat) (pb : List UInt8) (v : ProofValues) (signal' : List UInt8) (proof : Pr) (b : Bool)
    (hpb : pb.length = 128) (hv : CanonV v) (hs : signal'.length < 2 ^ 64) (hd : Z.decode pb = some proof)
    (hz : Z.verify proof (publicInputs v) = some b) (hr : ∀ r ∈ roots, r < P)
    (hne : h2f signal' ≠ v.x) :
    verifyRlnProof Z h2f root (prepareVerifyInput (pb ++ serializeProofValues v) signal') = .ok false ∧
    verifyWithRoots Z h2f (prepareVerifyInput (pb ++ serializeProofValues v) signal')
      (roots.map frToBytesLe).flatten = .ok false := by
  rw [Proto.verifyRln_exact Z h2f root pb v signal' proof b hpb hv hs hd hz,
    Proto.verifyRoots_exact Z h2f roots pb v signal' proof b hpb hv hs hd hz hr]
  simp [hne]

example := C02_wrong_signal_rejected C02.exZ C02.exH2f 3 [3] C02.exPb C02.exV [1, 2, 3, 4] () true
  (by decide +kernel) (by decide +kernel) (by decide +kernel) (by decide +kernel) (by decide +kernel)
  (by decide +kernel) (by decide +kernel)

/-- a tree root other than the message's root is rejected -/
theorem C02_wrong_root_rejected {Pr : Type} (Z : Snark Pr) (h2f : List UInt8 → Nat) (root : Nat)
    (pb : List UInt8) (v : ProofValues) (signal : List UInt8) (proof : Pr) (b : Bool)
    (hpb : pb.length = 128) (hv : CanonV v) (hs : signal.length < 2 ^ 64) (hd : Z.decode pb = some proof)
    (hz : Z.verify proof (publicInputs v) = some b) (hne : root ≠ v.root) :
    verifyRlnProof Z h2f root (prepareVerifyInput (pb ++ serializeProofValues v) signal) = .ok false := by
  rw [Proto.verifyRln_exact Z h2f root pb v signal proof b hpb hv hs hd hz]
  simp [hne]

example := C02_wrong_root_rejected C02.exZ C02.exH2f 4 C02.exPb C02.exV C02.exSignal () true
  (by decide +kernel) (by decide +kernel) (by decide +kernel) (by decide +kernel) (by decide +kernel) (by decide +kernel)

/-- a non-empty root set that does not contain the message's root is rejected -/
theorem C02_root_not_in_nonempty_set_rejected {Pr : Type} (Z : Snark Pr) (h2f : List UInt8 → Nat)
    (roots : List Nat) (pb : List UInt8) (v : ProofValues) (signal : List UInt8) (proof : Pr) (b : Bool)
    (hpb : pb.length = 128) (hv : CanonV v) (hs : signal.length < 2 ^ 64) (hd : Z.decode pb = some proof)
    (hz : Z.verify proof (publicInputs v) = some b) (hr : ∀ r ∈ roots, r < P)
    (hne : roots ≠ []) (hnot : v.root ∉ roots) :
    verifyWithRoots Z h2f (prepareVerifyInput (pb ++ serializeProofValues v) signal)
      (roots.map frToBytesLe).flatten = .ok false := by
  rw [Proto.verifyRoots_exact Z h2f roots pb v signal proof b hpb hv hs hd hz hr]
  simp [hne, hnot]

example := C02_root_not_in_nonempty_set_rejected C02.exZ C02.exH2f [9, 4] C02.exPb C02.exV C02.exSignal () true
  (by decide +kernel) (by decide +kernel) (by decide +kernel) (by decide +kernel) (by decide +kernel)
  (by decide +kernel) (by decide +kernel) (by decide +kernel)

/-- a proof whose pairing check fails is rejected by both entry points, whatever the rest -/
theorem C02_invalid_proof_rejected {Pr : Type} (Z : Snark Pr) (h2f : List UInt8 → Nat) (root : Nat)
    (roots : List Nat) (pb : List UInt8) (v : ProofValues) (signal : List UInt8) (proof : Pr)
    (hpb : pb.length = 128) (hv : CanonV v) (hs : signal.length < 2 ^ 64) (hd : Z.decode pb = some proof)
    (hz : Z.verify proof (publicInputs v) = some false) (hr : ∀ r ∈ roots, r < P) :
    verifyRlnProof Z h2f root (prepareVerifyInput (pb ++ serializeProofValues v) signal) = .ok false ∧
    verifyWithRoots Z h2f (prepareVerifyInput (pb ++ serializeProofValues v) signal)
      (roots.map frToBytesLe).flatten = .ok false := by
  rw [Proto.verifyRln_exact Z h2f root pb v signal proof false hpb hv hs hd hz,
    Proto.verifyRoots_exact Z h2f roots pb v signal proof false hpb hv hs hd hz hr]
  simp

example := C02_invalid_proof_rejected C02.exZ C02.exH2f 3 [3] C02.exPb C02.exVbad C02.exSignal ()
  (by decide +kernel) (by decide +kernel) (by decide +kernel) (by decide +kernel) (by decide +kernel)
  (by decide +kernel)

end Zk
