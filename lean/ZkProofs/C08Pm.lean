import ZkProofs.Lemmas.PmRun
/-!
# C08 on the persistent tree: the open finding C08-pm-batch as theorems

`PmTree::override_range` with a non-empty removal list goes through `remove_indices` /
`remove_indices_and_set_leaves` (`Pm.removeIndices`, `Pm.removeIndicesAndSetLeaves`), which do not
have the documented batch effect `Ideal.batch`. The statements below are kernel-checked evaluations
of the model at concrete requests (node type `Nat`, a toy two-to-one function, default leaf `0`,
association lists for the store and for the batch map, depth 4), and from them the negation of the
full-strength refinement statement for `Pm.overrideRange`.
-/
namespace Zk

open Tree

def C08Pm.exH : Nat → Nat → Nat := fun a b => 1000 * a + b + 7
abbrev C08Pm.ExD := AList PmKey (PmVal Nat)
abbrev C08Pm.ExS := AList (Nat × Nat) Nat

def C08Pm.pre : List (TreeOp Nat) := [.setRange 0 [10, 11, 12, 13, 14, 15, 16, 17]]

abbrev C08Pm.pm (ops : List (TreeOp Nat)) : Tree.Pm Nat C08Pm.ExD :=
  Tree.Pm.run (D := C08Pm.ExD) C08Pm.ExS C08Pm.exH 0 4 ops
abbrev C08Pm.ideal (ops : List (TreeOp Nat)) : Tree.Ideal Nat := Tree.Ideal.run 0 4 ops

def C08Pm.pmLeaves (n : Nat) (t : Tree.Pm Nat C08Pm.ExD) : List (Outcome Nat) :=
  (List.range n).map t.get
def C08Pm.idealLeaves (n : Nat) (s : Tree.Ideal Nat) : List Nat :=
  (List.range n).map (s.leaf 0)

theorem C08Pm.pre_covered : Tree.PmCovered C08Pm.pre := by decide

theorem C08Pm.pre_leaves :
    C08Pm.pmLeaves 10 (C08Pm.pm C08Pm.pre) = [10, 11, 12, 13, 14, 15, 16, 17, 0, 0].map .ok ∧
    C08Pm.idealLeaves 10 (C08Pm.ideal C08Pm.pre) = [10, 11, 12, 13, 14, 15, 16, 17, 0, 0] := by
  decide +kernel

theorem C08Pm.pre_rel :
    Tree.Pm.Rel C08Pm.exH 0 (C08Pm.pm C08Pm.pre) (C08Pm.ideal C08Pm.pre) :=
  Pm.run_rel C08Pm.ExS C08Pm.exH 0 4 (by decide) C08Pm.pre C08Pm.pre_covered

/-! ## `remove_indices_and_set_leaves`: wrong offset -/

/-- `override_range(5, [100, 101], [2, 3])` on the tree holding `10 … 17`.
    Documented effect: positions 2 and 3 reset, `100, 101` at positions 5 and 6.
    pmtree adapter: returns `Ok`; positions 2 and 3 keep `12, 13`; positions 5 and 6 are reset;
    position 7 receives the old leaf 4; `100, 101` land at positions 8 and 9. -/
theorem C08_pm_batch_wrong_offset :
    (Tree.Pm.applyOp C08Pm.ExS C08Pm.exH 0 (C08Pm.pm C08Pm.pre) (.batch 5 [100, 101] [2, 3])).2 = .ok () ∧
    (Tree.Ideal.batch 0 (C08Pm.ideal C08Pm.pre) 5 [100, 101] [2, 3]).isOk = true ∧
    C08Pm.pmLeaves 10 (C08Pm.pm (C08Pm.pre ++ [.batch 5 [100, 101] [2, 3]]))
      = [10, 11, 12, 13, 14, 0, 0, 14, 100, 101].map .ok ∧
    C08Pm.idealLeaves 10 (C08Pm.ideal (C08Pm.pre ++ [.batch 5 [100, 101] [2, 3]]))
      = [10, 11, 0, 0, 14, 100, 101, 17, 0, 0] ∧
    (C08Pm.pm (C08Pm.pre ++ [.batch 5 [100, 101] [2, 3]])).get 2 = .ok 12 ∧
    (C08Pm.ideal (C08Pm.pre ++ [.batch 5 [100, 101] [2, 3]])).leaf 0 2 = 0 := by
  decide +kernel

/-- the leaves of the persistent tree are not the specification's after that history -/
theorem C08_pm_batch_wrong_offset_leaves :
    ¬ (∀ i, i < 16 → (C08Pm.pm (C08Pm.pre ++ [.batch 5 [100, 101] [2, 3]])).get i =
        .ok ((C08Pm.ideal (C08Pm.pre ++ [.batch 5 [100, 101] [2, 3]])).leaf 0 i)) := by
  intro h
  have h2 := h 2 (by decide)
  rw [C08_pm_batch_wrong_offset.2.2.2.2.1, C08_pm_batch_wrong_offset.2.2.2.2.2] at h2
  exact absurd h2 (by decide)

/-- … nor is its root (the toy function separates the two leaf vectors) -/
theorem C08_pm_batch_wrong_offset_root :
    (C08Pm.pm (C08Pm.pre ++ [.batch 5 [100, 101] [2, 3]])).root ≠
      (C08Pm.ideal (C08Pm.pre ++ [.batch 5 [100, 101] [2, 3]])).root C08Pm.exH 0 := by
  decide +kernel

/-! ## `remove_indices`: the whole span is reset -/

/-- `override_range(0, [], [2, 5])`: the documented effect resets positions 2 and 5; the adapter
    resets positions 2, 3, 4, 5 (and returns `Ok`). -/
theorem C08_pm_remove_indices_collateral :
    (Tree.Pm.applyOp C08Pm.ExS C08Pm.exH 0 (C08Pm.pm C08Pm.pre) (.batch 0 [] [2, 5])).2 = .ok () ∧
    (Tree.Ideal.batch 0 (C08Pm.ideal C08Pm.pre) 0 [] [2, 5]).isOk = true ∧
    C08Pm.pmLeaves 10 (C08Pm.pm (C08Pm.pre ++ [.batch 0 [] [2, 5]]))
      = [10, 11, 0, 0, 0, 0, 16, 17, 0, 0].map .ok ∧
    C08Pm.idealLeaves 10 (C08Pm.ideal (C08Pm.pre ++ [.batch 0 [] [2, 5]]))
      = [10, 11, 0, 13, 14, 0, 16, 17, 0, 0] ∧
    (C08Pm.pm (C08Pm.pre ++ [.batch 0 [] [2, 5]])).get 3 = .ok 0 ∧
    (C08Pm.pm (C08Pm.pre ++ [.batch 0 [] [2, 5]])).get 4 = .ok 0 ∧
    (C08Pm.ideal (C08Pm.pre ++ [.batch 0 [] [2, 5]])).leaf 0 3 = 13 ∧
    (C08Pm.ideal (C08Pm.pre ++ [.batch 0 [] [2, 5]])).leaf 0 4 = 14 := by
  decide +kernel

theorem C08_pm_remove_indices_collateral_leaves :
    ¬ (∀ i, i < 16 → (C08Pm.pm (C08Pm.pre ++ [.batch 0 [] [2, 5]])).get i =
        .ok ((C08Pm.ideal (C08Pm.pre ++ [.batch 0 [] [2, 5]])).leaf 0 i)) := by
  intro h
  have h3 := h 3 (by decide)
  rw [C08_pm_remove_indices_collateral.2.2.2.2.1, C08_pm_remove_indices_collateral.2.2.2.2.2.2.1] at h3
  exact absurd h3 (by decide)

/-- the empty-leaf lists differ as well: the adapter clears the flags of the whole span -/
theorem C08_pm_remove_indices_collateral_empties :
    (C08Pm.pm (C08Pm.pre ++ [.batch 0 [] [2, 5]])).emptyIdx = [2, 3, 4, 5] ∧
    (C08Pm.ideal (C08Pm.pre ++ [.batch 0 [] [2, 5]])).emptyIdx = [2, 5] := by
  decide +kernel

/-! ## a removal index above the written range: panic -/

/-- `override_range(0, [100, 101], [5])`: `vec![default; max_index - min_index]` with
    `max_index = 2 < min_index = 5` — the adapter panics; the specification accepts the request
    (reset position 5, write positions 0 and 1). -/
theorem C08_pm_batch_panics :
    (Tree.Pm.applyOp C08Pm.ExS C08Pm.exH 0 (C08Pm.pm C08Pm.pre) (.batch 0 [100, 101] [5])).2 = .panic ∧
    (Tree.Ideal.batch 0 (C08Pm.ideal C08Pm.pre) 0 [100, 101] [5]).isOk = true ∧
    C08Pm.idealLeaves 10 (C08Pm.ideal (C08Pm.pre ++ [.batch 0 [100, 101] [5]]))
      = [100, 101, 12, 13, 14, 0, 16, 17, 0, 0] := by
  decide +kernel

/-! ## the full C08 statement is false for the persistent backend -/

def C08Pm.BatchRefines : Prop :=
  ∀ (t : Tree.Pm Nat C08Pm.ExD) (s : Tree.Ideal Nat) (start : Nat) (vs : List Nat) (rem : List Nat),
    Tree.Pm.Rel C08Pm.exH 0 t s →
    Tree.PmRefines C08Pm.exH 0 t s (Tree.Pm.overrideRange C08Pm.ExS C08Pm.exH 0 start vs rem t)
      (Tree.Ideal.batch 0 s start vs rem)

/-- the consequence of the refinement statement used below, for abstract state and request: applied
    to the concrete state directly, `PmRefines.keep` / `Pm.obs_eq` send the elaborator into
    evaluating the run (`whnf` times out) -/
theorem C08Pm.of_batchRefines (hall : C08Pm.BatchRefines)
    (t : Tree.Pm Nat C08Pm.ExD) (s : Tree.Ideal Nat) (start : Nat) (vs : List Nat) (rem : List Nat)
    (hrel : Tree.Pm.Rel C08Pm.exH 0 t s) :
    (Tree.Pm.overrideRange C08Pm.ExS C08Pm.exH 0 start vs rem t).2 ≠ .panic ∧
    ∀ i, i < 2 ^ (Tree.keepOk s (Tree.Ideal.batch 0 s start vs rem)).depth →
      (Tree.Pm.overrideRange C08Pm.ExS C08Pm.exH 0 start vs rem t).1.get i =
        .ok ((Tree.keepOk s (Tree.Ideal.batch 0 s start vs rem)).leaf 0 i) := by
  have h := (hall t s start vs rem hrel).keep
  refine ⟨h.2, fun i hi => ?_⟩
  obtain ⟨-, -, hget, -⟩ := Pm.obs_eq C08Pm.ExD C08Pm.exH 0 _ _ h.1
  rw [hget i, if_pos hi]

/-- the witness of `C08_pm_batch_wrong_offset` in the shape of one call on the state after
    `C08Pm.pre` (the run of the extended history is this state by definition of `Pm.run`) -/
theorem C08Pm.wrong_offset_step :
    (Tree.Pm.overrideRange C08Pm.ExS C08Pm.exH 0 5 [100, 101] [2, 3] (C08Pm.pm C08Pm.pre)).1.get 2 = .ok 12 ∧
    (Tree.keepOk (C08Pm.ideal C08Pm.pre)
      (Tree.Ideal.batch 0 (C08Pm.ideal C08Pm.pre) 5 [100, 101] [2, 3])).leaf 0 2 = 0 ∧
    2 < 2 ^ (Tree.keepOk (C08Pm.ideal C08Pm.pre)
      (Tree.Ideal.batch 0 (C08Pm.ideal C08Pm.pre) 5 [100, 101] [2, 3])).depth := by
  decide +kernel

/-- `Pm.overrideRange` does not refine `Ideal.batch`: the state before the call refines the ideal
    one (`Pm.run_rel`), a refining result would have the ideal leaves (`Pm.obs_eq`), but position 2
    still holds `12` where the specification has the default leaf. -/
theorem C08_pm_batch_refinement_fails :
    ¬ (∀ (t : Tree.Pm Nat C08Pm.ExD) (s : Tree.Ideal Nat) (start : Nat) (vs : List Nat) (rem : List Nat),
        Tree.Pm.Rel C08Pm.exH 0 t s →
        Tree.PmRefines C08Pm.exH 0 t s (Tree.Pm.overrideRange C08Pm.ExS C08Pm.exH 0 start vs rem t)
          (Tree.Ideal.batch 0 s start vs rem)) := by
  intro hall
  have hget := (C08Pm.of_batchRefines hall _ _ 5 [100, 101] [2, 3] C08Pm.pre_rel).2 2
    C08Pm.wrong_offset_step.2.2
  rw [C08Pm.wrong_offset_step.1, C08Pm.wrong_offset_step.2.1] at hget
  exact absurd hget (by decide)

/-- the same conclusion from the panic: a panicking call refines nothing -/
theorem C08_pm_batch_refinement_fails_panic : ¬ C08Pm.BatchRefines := fun hall =>
  (C08Pm.of_batchRefines hall _ _ 0 [100, 101] [5] C08Pm.pre_rel).1 C08_pm_batch_panics.1

/-- and on histories: dropping `PmCovered` from `C06_pm_observables` makes it false -/
theorem C08_pm_history_statement_fails :
    ¬ (∀ (ops : List (TreeOp Nat)) (i : Nat), i < 2 ^ 4 →
        (C08Pm.pm ops).get i = .ok ((C08Pm.ideal ops).leaf 0 i)) := by
  intro h
  exact C08_pm_batch_wrong_offset_leaves (fun i hi => h _ i hi)

end Zk
