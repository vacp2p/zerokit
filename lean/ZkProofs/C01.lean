import ZkProofs.Lemmas.ProtoProofs
import ZkProofs.Lemmas.IdealProofs
/-!
# C01 — a request for a registered identity inside the circuit's range proves and verifies

Given the prover contract `Complete` (Groth16 completeness for the circuit relation with the public
values of C04/C05, and its own 128-byte codec), `generate_rln_proof` on the request built by
`prepare_prove_input` for an identity whose membership path recomputes `root` returns a 288-byte
message that `verify`, `verify_rln_proof` (against `root`), and `verify_with_roots` (against
`[root]` and against the empty root set) all accept. With the tree specification of C07 the path
hypotheses hold for every position of the tree that stores the rate commitment.
-/
namespace Zk
open Zk.Codec Zk.Protocol Zk.Public Zk.Proto

theorem C01_prove_then_verify :
    ∀ {Pr : Type} (Z : Snark Pr) (Pv : Prover Pr) (H : List Nat → Nat) (h2f : List UInt8 → Nat) (depth : Nat)
    (treeProof : Nat → Outcome (List (Nat × Nat))) (root : Nat)
    (s i lim m e : Nat) (signal : List UInt8) (π : List (Nat × Nat)),
    Complete Z Pv H depth → (∀ l, H l < P) → (∀ b, h2f b < P) →
    s < P → lim < P → e < P → i < 2 ^ 64 → signal.length < 2 ^ 64 →
    m < lim → m < 2 ^ 16 → lim ≤ m + 2 ^ 16 →
    treeProof i = .ok π → π.length = depth → (∀ x ∈ π, x.2 = 0 ∨ x.2 = 1) →
    Tree.Ideal.computeRoot (fun a b => H [a, b]) (H [H [s], lim]) π = root →
    ∃ msg, generateRlnProof Z Pv H h2f depth treeProof (prepareProveInput s i lim m e signal) = .ok msg ∧
      msg.length = 288 ∧
      verify Z msg = .ok true ∧
      verifyRlnProof Z h2f root (prepareVerifyInput msg signal) = .ok true ∧
      verifyWithRoots Z h2f (prepareVerifyInput msg signal) (frToBytesLe root) = .ok true ∧
      verifyWithRoots Z h2f (prepareVerifyInput msg signal) [] = .ok true :=
  prove_then_verify

/-- on the tree specification: every position of the ideal tree that holds the rate commitment
    `H(H(s), limit)` gives a request that proves and verifies against the tree's root (the
    membership hypotheses are `Ideal.proof_complete`, C07) -/
theorem C01_registered_identity_proves_and_verifies :
    ∀ {Pr : Type} (Z : Snark Pr) (Pv : Prover Pr) (H : List Nat → Nat) (h2f : List UInt8 → Nat)
    (t : Tree.Ideal Nat) (dflt : Nat) (s i lim m e : Nat) (signal : List UInt8),
    Complete Z Pv H t.depth → (∀ l, H l < P) → (∀ b, h2f b < P) →
    s < P → lim < P → e < P → i < 2 ^ 64 → signal.length < 2 ^ 64 →
    m < lim → m < 2 ^ 16 → lim ≤ m + 2 ^ 16 →
    i < 2 ^ t.depth → t.leaf dflt i = H [H [s], lim] →
    ∃ msg, generateRlnProof Z Pv H h2f t.depth
        (fun j => if j < 2 ^ t.depth then .ok (t.proof (fun a b => H [a, b]) dflt j) else .err)
        (prepareProveInput s i lim m e signal) = .ok msg ∧
      msg.length = 288 ∧
      verify Z msg = .ok true ∧
      verifyRlnProof Z h2f (t.root (fun a b => H [a, b]) dflt) (prepareVerifyInput msg signal) = .ok true ∧
      verifyWithRoots Z h2f (prepareVerifyInput msg signal) (frToBytesLe (t.root (fun a b => H [a, b]) dflt))
        = .ok true ∧
      verifyWithRoots Z h2f (prepareVerifyInput msg signal) [] = .ok true := by
  intro Pr Z Pv H h2f t dflt s i lim m e signal hC hH hh2f hs hlim he hi hsig hml hm16 hlm hit hleaf
  obtain ⟨hlen, _, hbits, hroot⟩ := Tree.Ideal.proof_complete (fun a b => H [a, b]) dflt t i hit
  rw [hleaf] at hroot
  exact prove_then_verify Z Pv H h2f t.depth _ _ s i lim m e signal _ hC hH hh2f hs hlim he hi hsig hml hm16 hlm
    (if_pos hit) hlen hbits hroot

/-! ## non-vacuity: the hypotheses have a model -/

def C01.exH : List Nat → Nat := fun l => l.foldl (fun acc v => 1000 * acc + v + 7) 1 % 1000003
theorem C01.exH_lt : ∀ l, C01.exH l < P := fun _ => Nat.lt_trans (Nat.mod_lt _ (by decide)) (by decide)
def C01.exh2f : List UInt8 → Nat := fun b => b.length % 1000
theorem C01.exh2f_lt : ∀ b, C01.exh2f b < P := fun _ => Nat.lt_trans (Nat.mod_lt _ (by decide)) (by decide)
def C01.exZ : Snark Unit := { decode := fun _ => some (), verify := fun _ _ => some true,
                              encode := fun _ => List.replicate 128 0 }
def C01.exPv : Prover Unit := ⟨fun _ => some ()⟩
theorem C01.exComplete (depth : Nat) : Complete C01.exZ C01.exPv C01.exH depth :=
  ⟨fun _ _ => ⟨(), rfl, rfl⟩, fun _ => ⟨List.length_replicate, rfl⟩⟩
/-- depth 2, the rate commitment of secret 5 / limit 10 at position 1 -/
def C01.exT : Tree.Ideal Nat := (Tree.Ideal.new 2).write 1 (C01.exH [C01.exH [5], 10])

example := C01_registered_identity_proves_and_verifies C01.exZ C01.exPv C01.exH C01.exh2f C01.exT 0
  5 1 10 2 9 [1, 2, 3] (C01.exComplete 2) C01.exH_lt C01.exh2f_lt (by decide) (by decide) (by decide)
  (by decide) (by decide) (by decide) (by decide) (by decide) (by decide) (by decide)

end Zk
