import ZkProofs.Lemmas.ProtoProofs
/-!
# C03 — secret recovery and nullifiers

`compute_id_secret` interpolates the line `y = s + x·a₁` through two shares. Over the field of
`P` elements (`P` is prime: Lucas/Pratt certificate in `Lemmas/FieldBridge.lean`, the model's `finv`
is the field inverse by Fermat) two shares of one identity in one epoch / message id with different
signal hashes give back the identity secret, on field elements and end to end on the message
encodings; equal `x` is an error; different external nullifiers recover nothing. The nullifier does
not depend on the signal, and two different (external nullifier, message id) pairs with one
nullifier exhibit a Poseidon collision.
-/
namespace Zk
open Zk.Codec Zk.Protocol Zk.Public Zk.Proto

/-- toy stand-in for Poseidon with values below `P` -/
def C03.exH : List Nat → Nat := fun l => l.foldl (fun acc v => 1000 * acc + v + 7) 1 % 1000003
theorem C03.exH_lt : ∀ l, C03.exH l < P := fun _ => Nat.lt_trans (Nat.mod_lt _ (by decide)) (by decide)
def C03.exW : Witness := { identitySecret := 5, userMessageLimit := 10, messageId := 2,
                           pathElements := [11, 12], identityPathIndex := [0, 1], x := 21,
                           externalNullifier := 9 }

/-- the arithmetic of the model is the arithmetic of a field -/
theorem C03_field_is_a_field : Nat.Prime P := P_prime

/-- the model's inverse is the field inverse -/
theorem C03_inverse_is_inverse : ∀ b : Nat, b < P → b ≠ 0 → fmul b (finv b) = 1 := finv_mul

example : fmul 3 (finv 3) = 1 := by decide +kernel

/-- two shares of the same line with different `x` recover the secret -/
theorem C03_recover_secret : ∀ s a x1 x2 : Nat, s < P → a < P → x1 < P → x2 < P → x1 ≠ x2 →
    computeIdSecret x1 (fadd s (fmul x1 a)) x2 (fadd s (fmul x2 a)) = .ok s :=
  recover_secret

example := C03_recover_secret 5 7 1 2 (by decide) (by decide) (by decide) (by decide) (by decide)
example : computeIdSecret 1 (fadd 5 (fmul 1 7)) 2 (fadd 5 (fmul 2 7)) = .ok 5 := by decide +kernel

/-- equal `x` (the same signal twice) is an error, never a division by zero -/
theorem C03_recover_degenerate_is_error : ∀ x y1 y2 : Nat, computeIdSecret x y1 x y2 = .err :=
  recover_degenerate

example : computeIdSecret 3 10 3 11 = .err := by decide

/-- the nullifier, the root and the external nullifier do not depend on the signal hash `x` -/
theorem C03_nullifier_independent_of_signal :
    ∀ (H : List Nat → Nat) (w : Witness) (x' : Nat) (v v' : ProofValues),
    proofValuesFromWitness H w = .ok v → proofValuesFromWitness H { w with x := x' } = .ok v' →
    v.nullifier = v'.nullifier ∧ v.root = v'.root ∧ v.externalNullifier = v'.externalNullifier :=
  nullifier_signal_free

example : (proofValuesFromWitness C03.exH C03.exW).isOk ∧
    (proofValuesFromWitness C03.exH { C03.exW with x := 22 }).isOk := by decide

/-- end to end on message encodings: two messages of one identity in one epoch / message id with
    different signal hashes give back the secret -/
theorem C03_recover_from_messages :
    ∀ (H : List Nat → Nat) (w : Witness) (x' : Nat) (v v' : ProofValues) (pb pb' : List UInt8),
    (∀ l, H l < P) → CanonW w → x' < P → w.x ≠ x' → pb.length = 128 → pb'.length = 128 →
    proofValuesFromWitness H w = .ok v → proofValuesFromWitness H { w with x := x' } = .ok v' →
    recoverIdSecret (pb ++ serializeProofValues v) (pb' ++ serializeProofValues v') =
      .ok (frToBytesLe w.identitySecret) :=
  recover_from_messages

example : recoverIdSecret
    (List.replicate 128 0 ++ serializeProofValues (specProofValues C03.exH C03.exW))
    (List.replicate 128 1 ++ serializeProofValues (specProofValues C03.exH { C03.exW with x := 22 })) =
    .ok (frToBytesLe 5) :=
  C03_recover_from_messages C03.exH C03.exW 22 _ _ _ _ C03.exH_lt (by decide) (by decide)
    (by decide) (by simp) (by simp) (by decide) (by decide)

/-- different external nullifiers (epochs): the call succeeds with an empty output -/
theorem C03_different_external_nullifier_recovers_nothing :
    ∀ (v v' : ProofValues) (pb pb' : List UInt8), CanonV v → CanonV v' → pb.length = 128 → pb'.length = 128 →
    v.externalNullifier ≠ v'.externalNullifier →
    recoverIdSecret (pb ++ serializeProofValues v) (pb' ++ serializeProofValues v') = .ok [] :=
  recover_different_epoch

example := C03_different_external_nullifier_recovers_nothing
  { y := 1, nullifier := 2, root := 3, x := 4, externalNullifier := 5 }
  { y := 1, nullifier := 2, root := 3, x := 6, externalNullifier := 7 }
  (List.replicate 128 0) (List.replicate 128 1)
  (by decide) (by decide) (by simp) (by simp) (by decide)

/-- distinct (external nullifier, message id) with equal nullifiers exhibit a Poseidon collision -/
theorem C03_distinct_nullifiers_or_collision :
    ∀ (H : List Nat → Nat) (s e m e' m' : Nat), (e, m) ≠ (e', m') →
    H [H [s, e, m]] = H [H [s, e', m']] →
    ∃ l l' : List Nat, l ≠ l' ∧ H l = H l' :=
  nullifier_collision

/-- the hypothesis is satisfiable exactly by colliding functions, e.g. a constant one -/
example := C03_distinct_nullifiers_or_collision (fun _ => 0) 1 2 3 2 4 (by decide) rfl

end Zk
