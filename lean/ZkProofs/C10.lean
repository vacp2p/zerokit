import ZkProofs.Lemmas.BytesProofs
/-!
# C10 — the byte codecs are inverse to each other and strict

`fr_to_bytes_le` / `bytes_le_to_fr`, the length-prefixed vector codecs, the witness codec
(`serialize_witness` / `deserialize_witness`), the proof-values codec and the request layout of
`prepare_prove_input` / `proof_inputs_to_rln_witness`: serialising canonical data and decoding it
gives the data back together with the number of bytes written; decoding never returns a value at or
above the field order; the witness decoder never panics, accepts only inputs whose length is exactly
the one fixed by the two counts, and so rejects every extension and every truncation of an accepted
encoding.
-/
namespace Zk
open Zk.Codec Zk.Protocol Zk.Public Zk.Proto

/-! ## concrete values for the non-vacuity checks -/

def C10.exW : Witness :=
  ⟨11, 100, 3, [P - 1, 5], [0, 1], 77, P - 2⟩
def C10.exV : ProofValues := ⟨P - 1, 2, 3, 4, 5⟩
def C10.exBytes : List UInt8 :=
  match serializeWitness C10.exW with
  | .ok b => b
  | _ => []

/-! ## field elements -/

theorem C10_fr_roundtrip : ∀ v : Nat, v < P →
    (frToBytesLe v).length = 32 ∧ bytesLeToFr (frToBytesLe v) = .ok (v, 32) :=
  Proto.fr_roundtrip

example : P - 1 < P ∧ bytesLeToFr (frToBytesLe (P - 1)) = .ok (P - 1, 32) := by decide +kernel

/-- decoding never yields a non-canonical value, whatever the bytes -/
theorem C10_fr_decode_canonical : ∀ (bs : List UInt8) (v n : Nat),
    bytesLeToFr bs = .ok (v, n) → v < P ∧ n = 32 :=
  Proto.fr_decode_canonical

/-- non-canonical bytes are reduced, not refused: `P + 3` reads as `3` -/
example : bytesLeToFr (natLE 32 (P + 3)) = .ok (3, 32) := by decide +kernel

/-! ## vectors -/

theorem C10_vecFr_roundtrip : ∀ l : List Nat, (∀ e ∈ l, e < P) → l.length < 2 ^ 64 →
    (vecFrToBytesLe l).length = 8 + 32 * l.length ∧
    bytesLeToVecFr (vecFrToBytesLe l) = .ok (l, 8 + 32 * l.length) :=
  Proto.vecFr_roundtrip

example : (∀ e ∈ [P - 1, 0, 5], e < P) ∧ [P - 1, 0, 5].length < 2 ^ 64 ∧
    bytesLeToVecFr (vecFrToBytesLe [P - 1, 0, 5]) = .ok ([P - 1, 0, 5], 104) := by decide +kernel

theorem C10_vecU8_roundtrip : ∀ l : List UInt8, l.length < 2 ^ 64 →
    bytesLeToVecU8 (vecU8ToBytesLe l) = .ok (l, 8 + l.length) :=
  Proto.vecU8_roundtrip

example : bytesLeToVecU8 (vecU8ToBytesLe [1, 0, 255]) = .ok ([1, 0, 255], 11) := by decide +kernel

theorem C10_vecUsize_roundtrip : ∀ l : List Nat, (∀ e ∈ l, e < 2 ^ 64) → l.length < 2 ^ 64 →
    bytesLeToVecUsize (serializeVecUsize l) = .ok l :=
  Proto.vecUsize_roundtrip

example : (∀ e ∈ [0, 2 ^ 64 - 1, 7], e < 2 ^ 64) ∧
    bytesLeToVecUsize (serializeVecUsize [0, 2 ^ 64 - 1, 7]) = .ok [0, 2 ^ 64 - 1, 7] := by
  decide +kernel

/-! ## witness -/

theorem C10_witness_roundtrip : ∀ w : Witness, CanonW w → w.messageId < w.userMessageLimit →
    ∃ bs, serializeWitness w = .ok bs ∧
      bs.length = 96 + (8 + 32 * w.pathElements.length) + (8 + w.identityPathIndex.length) + 64 ∧
      deserializeWitness bs = .ok (w, bs.length) :=
  Proto.witness_roundtrip

example : CanonW C10.exW ∧ C10.exW.messageId < C10.exW.userMessageLimit := by decide +kernel
theorem C10.exBytes_decode : deserializeWitness C10.exBytes = .ok (C10.exW, 242) := by decide +kernel
example : serializeWitness C10.exW = .ok C10.exBytes ∧ C10.exBytes.length = 242 ∧
    deserializeWitness C10.exBytes = .ok (C10.exW, 242) :=
  ⟨by decide +kernel, by decide +kernel, C10.exBytes_decode⟩

/-- a successful decode consumed exactly the whole input, whose length is determined by the two
    counts, and passed the message-id range check -/
theorem C10_witness_exact_length : ∀ (bs : List UInt8) (w : Witness) (n : Nat),
    deserializeWitness bs = .ok (w, n) →
    n = bs.length ∧
    bs.length = 96 + (8 + 32 * w.pathElements.length) + (8 + w.identityPathIndex.length) + 64 ∧
    w.messageId < w.userMessageLimit :=
  Proto.witness_exact_length

example := C10_witness_exact_length C10.exBytes C10.exW 242 C10.exBytes_decode

/-- no encoding with trailing bytes and no truncated encoding decodes -/
theorem C10_witness_no_trailing_or_missing_bytes : ∀ (bs : List UInt8) (w : Witness) (n : Nat),
    deserializeWitness bs = .ok (w, n) →
    (∀ extra : List UInt8, extra ≠ [] → deserializeWitness (bs ++ extra) = .err) ∧
    (∀ k : Nat, k < bs.length → deserializeWitness (bs.take k) = .err) :=
  Proto.witness_no_slack

example := C10_witness_no_trailing_or_missing_bytes C10.exBytes C10.exW 242 C10.exBytes_decode
example : deserializeWitness (C10.exBytes ++ [0]) = .err ∧
    deserializeWitness (C10.exBytes.take 241) = .err ∧
    deserializeWitness (C10.exBytes.take 100) = .err := by decide +kernel

theorem C10_witness_decode_total : ∀ bs : List UInt8, deserializeWitness bs ≠ .panic :=
  Proto.witness_decode_total

/-- a declared path count far beyond the input is an error, not a crash -/
example : deserializeWitness (C10.exBytes.take 96 ++ natLE 8 (2 ^ 64 - 1) ++ C10.exBytes.drop 104) = .err := by
  decide +kernel

/-! ## proof values and the proving request -/

theorem C10_proofValues_roundtrip : ∀ v : ProofValues, CanonV v →
    (serializeProofValues v).length = 160 ∧
    deserializeProofValues (serializeProofValues v) = .ok (v, 160) :=
  Proto.proofValues_roundtrip

example : CanonV C10.exV ∧
    deserializeProofValues (serializeProofValues C10.exV) = .ok (C10.exV, 160) := by decide +kernel

/-- the request layout read by `proof_inputs_to_rln_witness` is the one written by
    `prepare_prove_input` -/
theorem C10_proveInput_roundtrip : ∀ (h2f : List UInt8 → Nat) (treeProof : Nat → Outcome (List (Nat × Nat)))
    (s i lim m e : Nat) (signal : List UInt8) (π : List (Nat × Nat)),
    s < P → lim < P → m < P → e < P → i < 2 ^ 64 → signal.length < 2 ^ 64 → treeProof i = .ok π →
    proofInputsToWitness h2f treeProof (prepareProveInput s i lim m e signal) =
      .ok ({ identitySecret := s, userMessageLimit := lim, messageId := m, pathElements := π.map (·.1),
             identityPathIndex := π.map (fun x => x.2.toUInt8), x := h2f signal, externalNullifier := e }, 144) :=
  Proto.proveInput_roundtrip

example : proofInputsToWitness (fun b => b.length) (fun i => if i = 6 then .ok [(9, 0), (8, 1)] else .err)
      (prepareProveInput 11 6 100 3 (P - 2) [1, 2, 3]) =
    .ok (⟨11, 100, 3, [9, 8], [0, 1], 3, P - 2⟩, 144) := by decide +kernel

end Zk
