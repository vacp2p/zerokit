import ZkProofs.C02
/-!
# C17 — the stateless configuration computes the same functions as the stateful ones

`--features stateless` compiles the protocol without a tree: the verifier takes the acceptable roots as an
argument (`verify_with_roots`), the prover takes a complete witness (`generate_rln_proof_with_witness`).
Both are the same code in every build, so the claim "all configurations implement one protocol" reduces to:

* `C17_stateless_verifier_agrees`: given the one-element root set {r}, `verify_with_roots` answers EVERY
  byte string — valid, tampered, truncated, non-canonical — exactly as `verify_rln_proof` on an instance
  whose tree root is r (same verdict, same error).
* `C17_stateless_prover_agrees`: fed the witness a stateful instance derives for a request (as exported by
  `get_serialized_rln_witness`), the witness entry point returns exactly the message the request entry point
  returns — for every SNARK back end and prover satisfying the contract, every tree state.

Together with `C17_all_backends_same_roots_and_paths` (the three tree back ends give the same root and the
same paths on every history) the five build configurations are one protocol at the model level; the five
real builds are compared by the correspondence part of the check.
-/
namespace Zk
open Protocol Public Codec Proto

theorem C17_stateless_verifier_agrees {Pr : Type} (Z : Snark Pr) (h2f : List UInt8 → Nat) (root : Nat) (hr : root < P)
    (bs : List UInt8) :
    verifyWithRoots Z h2f bs (frToBytesLe root) = verifyRlnProof Z h2f root bs := by
  have hroots : parseRoots 2 (frToBytesLe root) = [root] := by
    simpa using parseRoots_flatten [root] 2 (Nat.lt_succ_self 1) (by simpa using hr)
  unfold verifyWithRoots verifyRlnProof
  cases hf : verifyFront Z bs with
  | err => rfl
  | panic => rfl
  | ok o =>
    cases o with
    | none => rfl
    | some t =>
      obtain ⟨b, v, signal⟩ := t
      simp only [frToBytesLe_length, Nat.reduceDiv, Nat.reduceAdd, hroots]
      cases b <;> by_cases hx : h2f signal = v.x <;> simp [hx, eq_comm]

/-- non-vacuity: a message the stateful verifier accepts under root 3 and rejects under root 4, and a truncated one
    (an error on both sides) -/
example : verifyRlnProof C02.exZ C02.exH2f 3 (prepareVerifyInput C02.exMsg C02.exSignal) = .ok true ∧
    verifyWithRoots C02.exZ C02.exH2f (prepareVerifyInput C02.exMsg C02.exSignal) (frToBytesLe 3) = .ok true ∧
    verifyWithRoots C02.exZ C02.exH2f (prepareVerifyInput C02.exMsg C02.exSignal) (frToBytesLe 4) = .ok false ∧
    verifyWithRoots C02.exZ C02.exH2f (C02.exMsg.take 200) (frToBytesLe 3) = .err := by decide +kernel

theorem C17_stateless_prover_agrees {Pr : Type} (Z : Snark Pr) (Pv : Prover Pr) (H : List Nat → Nat) (h2f : List UInt8 → Nat)
    (depth : Nat) (pf : Nat → Outcome (List (Nat × Nat))) (bs : List UInt8) (w : Witness) (n : Nat)
    (hw : proofInputsToWitness h2f pf bs = .ok (w, n)) (hc : CanonW w) (hlt : w.messageId < w.userMessageLimit) :
    ∃ wb, serializeWitness w = .ok wb ∧
      generateRlnProofWithWitness Z Pv H depth wb = generateRlnProof Z Pv H h2f depth pf bs := by
  obtain ⟨wb, hs, _, hd⟩ := witness_roundtrip w hc hlt
  refine ⟨wb, hs, ?_⟩
  unfold generateRlnProofWithWitness generateRlnProof
  rw [hd, hw]

/-- non-vacuity: a 146-byte request on a two-level tree whose derived witness is canonical and in range -/
def C17.exReq : List UInt8 :=
  frToBytesLe 5 ++ normalizeUsize 1 ++ frToBytesLe 100 ++ frToBytesLe 3 ++ frToBytesLe 9 ++ normalizeUsize 2 ++ [7, 8]
def C17.exPf : Nat → Outcome (List (Nat × Nat)) := fun _ => .ok [(11, 1), (12, 0)]
def C17.exW : Witness :=
  { identitySecret := 5, userMessageLimit := 100, messageId := 3, pathElements := [11, 12], identityPathIndex := [1, 0],
    x := 3, externalNullifier := 9 }
example : proofInputsToWitness C02.exH2f C17.exPf C17.exReq = .ok (C17.exW, 144) ∧ CanonW C17.exW ∧
    C17.exW.messageId < C17.exW.userMessageLimit :=
  ⟨by decide +kernel, by decide +kernel, by decide⟩

end Zk
