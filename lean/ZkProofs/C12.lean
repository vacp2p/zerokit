import ZkProofs.Lemmas.ProtoProofs
/-!
# C12 — the proving entry points: `Ok` implies a satisfiable witness, and the only crash

Partial: the software checks (`message_id < user_message_limit` only) accept requests that the
circuit cannot satisfy — `message_id ≥ 2^16`, `user_message_limit > message_id + 2^16`, or a
direction byte other than 0/1 (`OpenUnsat`, open finding C12-unsat-accepted) — and the witness
calculator asserts the input lengths (open finding C12-path-length-panic). Outside these shapes a
successful call had a circuit-satisfiable witness, and no other crash exists.
-/
namespace Zk
open Zk.Codec Zk.Protocol Zk.Public Zk.Proto

/-- a successful proving call decoded a witness that satisfies the circuit, or is of an open shape -/
theorem C12_ok_implies_satisfiable_partial :
    ∀ {Pr : Type} (Z : Snark Pr) (Pv : Prover Pr) (H : List Nat → Nat) (depth : Nat) (bs msg : List UInt8),
    generateRlnProofWithWitness Z Pv H depth bs = .ok msg →
    ∃ w n, deserializeWitness bs = .ok (w, n) ∧ (CircuitSat depth w ∨ OpenUnsat w) :=
  prover_ok_sat

/-- the only crash of `generate_rln_proof_with_witness` / `prove` is the length assertion of the
    witness calculator: the request decoded, and a vector has not the tree's depth -/
theorem C12_only_crash_is_length_assertion_partial :
    ∀ {Pr : Type} (Z : Snark Pr) (Pv : Prover Pr) (H : List Nat → Nat) (depth : Nat) (bs : List UInt8),
    (generateRlnProofWithWitness Z Pv H depth bs = .panic ∨ Public.prove Z Pv depth bs = .panic) →
    ∃ w n, deserializeWitness bs = .ok (w, n) ∧
      (w.pathElements.length ≠ depth ∨ w.identityPathIndex.length ≠ depth) :=
  prover_panic

/-! ## the open shapes are real in the model (kernel-checked witnesses) -/

/-- `message_id = 2^16`, `user_message_limit = 70000`, depth 20: passes the range check,
    `Num2Bits(16)(messageId)` is unsatisfiable -/
def C12.exW : Witness := { identitySecret := 1, userMessageLimit := 70000, messageId := 65536,
                           pathElements := List.replicate 20 0, identityPathIndex := List.replicate 20 0,
                           x := 3, externalNullifier := 4 }

theorem C12_open_shape_example :
    ∃ w, messageIdRangeCheck w.messageId w.userMessageLimit = .ok () ∧ ¬ CircuitSat 20 w :=
  ⟨C12.exW, by decide⟩

example : OpenUnsat C12.exW := .inl (by decide)

/-- the same request goes through the whole glue when the prover contract returns a proof: the
    software has no check that stops it -/
example : generateProof (Pr := Unit) ⟨fun _ => some ()⟩ 20 C12.exW = .ok () := by decide

/-- a limit more than `2^16` above the message id, and a direction byte 2 -/
example : messageIdRangeCheck 0 70000 = .ok () ∧
    ¬ CircuitSat 20 { C12.exW with messageId := 0 } ∧
    ¬ CircuitSat 20 { C12.exW with messageId := 5, userMessageLimit := 6,
                                   identityPathIndex := 2 :: List.replicate 19 0 } := by decide

/-- the crash: a 19-element path at depth 20 -/
example : generateProof (Pr := Unit) ⟨fun _ => some ()⟩ 20
    { C12.exW with pathElements := List.replicate 19 0 } = .panic := by decide

/-- the repaired boundary: `message_id = user_message_limit` is rejected -/
theorem C12_range_check_boundary : ∀ m : Nat, messageIdRangeCheck m m = .err :=
  fun m => by simp [messageIdRangeCheck]

/-- and the check is exactly `message_id < user_message_limit` -/
theorem C12_range_check_exact : ∀ m l : Nat, messageIdRangeCheck m l = .ok () ↔ m < l :=
  messageIdRangeCheck_ok

end Zk
