import ZkModel.Generated.Layouts
import ZkModel.Public
/-!
# C10 — the byte layouts in the source are the documented ones (translator-fed theorems)

`Generated/Layouts.lean` is rewritten from `rln/src/protocol.rs` on every run: the ordered field
lists of each serialiser and deserialiser, the public-input order of `verify_proof`, and the layouts
written in the comments above the functions. These theorems compare them with each other and with
the order used by the hand-written model (`Zk.Protocol`), so that a reordering on either Rust side
— or on both — changes a proof obligation.
-/
namespace Zk
open Zk.Generated.Layouts

/-- field name of an entry such as `x:fr`, `root<32>`, `path_elements[<32>]` -/
def layoutName (s : String) : String := String.ofList (s.toList.takeWhile (fun c => c.isAlphanum || c == '_'))

def names (l : Option (List String)) : Option (List String) := l.map (·.map layoutName)

/-- the order the model `Protocol.serializeWitness` / `deserializeWitness` uses -/
def modelWitnessOrder : List String :=
  ["identity_secret:fr", "user_message_limit:fr", "message_id:fr", "path_elements:vec_fr", "identity_path_index:vec_u8", "x:fr", "external_nullifier:fr"]
/-- the order the model `Protocol.serializeProofValues` / `deserializeProofValues` uses -/
def modelProofValuesOrder : List String := ["root", "external_nullifier", "x", "y", "nullifier"]
/-- the order `Public.publicInputs` uses = the circuit's public signals `[y, root, nullifier, x, externalNullifier]` -/
def modelPublicInputs : List String := ["y", "root", "nullifier", "x", "external_nullifier"]
def modelProveInputOrder : List String :=
  ["identity_secret:fr", "id_index:usize", "user_message_limit:fr", "message_id:fr", "external_nullifier:fr", "signal_len:usize", "signal:raw"]

/-- `layoutName` before it is packed into a `String`. Two computed `String`s are compared through
    their UTF-8 byte arrays, which is slow in the kernel; two `List Char` are compared as they are. -/
def layoutChars (s : String) : List Char := s.toList.takeWhile (fun c => c.isAlphanum || c == '_')

theorem names_eq_map (a : Option (List String)) :
    names a = (a.map (·.map layoutChars)).map (·.map String.ofList) := by
  cases a with
  | none => rfl
  | some l => simp [names, layoutName, layoutChars]

theorem names_congr {a b : Option (List String)}
    (h : a.map (·.map layoutChars) = b.map (·.map layoutChars)) : names a = names b := by
  rw [names_eq_map, names_eq_map, h]

theorem names_eq_of_chars {a b : Option (List String)}
    (h : a.map (·.map layoutChars) = b.map (·.map String.toList)) : names a = b := by
  rw [names_eq_map, h]
  cases b with
  | none => rfl
  | some l => simp

theorem C10_witness_layout :
    serWitness = some modelWitnessOrder ∧ deWitness = serWitness ∧ names docWitness = names serWitness :=
  ⟨rfl, rfl, names_congr (by decide +kernel)⟩

theorem C10_proof_values_layout :
    serProofValues = some modelProofValuesOrder ∧ names deProofValues = serProofValues ∧
    names docProofValues = serProofValues :=
  ⟨rfl, names_eq_of_chars (by decide +kernel), names_eq_of_chars (by decide +kernel)⟩

theorem C10_prove_input_layout :
    serProveInput = some modelProveInputOrder ∧
    deProveInput = serProveInput.map (·.dropLast) ∧     -- the reader slices the signal after the six fixed fields
    names docProveInput = names serProveInput :=
  ⟨rfl, rfl, names_congr (by decide +kernel)⟩

/-- the verification request is the proof followed by the proof values in their serialised order,
    then the signal: the documented layout of `prepare_verify_input` -/
theorem C10_verify_input_layout :
    names docVerifyInput = (serProofValues.map (fun l => ["proof"] ++ l ++ ["signal_len", "signal"])) :=
  names_eq_of_chars (by decide +kernel)

theorem C10_public_input_order : publicInputs = some modelPublicInputs := rfl

/-- the model's `publicInputs` really is that order -/
theorem C10_model_public_inputs (v : Protocol.ProofValues) :
    Public.publicInputs v = [v.y, v.root, v.nullifier, v.x, v.externalNullifier] := rfl

end Zk
