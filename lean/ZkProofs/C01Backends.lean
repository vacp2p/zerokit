import ZkProofs.C01
import ZkProofs.C06
import ZkProofs.C06Pm
/-!
# C01 on the real tree backends, over every history

`C01.lean` proves prove-then-verify relative to the prover contract `Complete`, for any membership
path that recomputes the root, and instantiates it on the ideal tree. Here the statement is composed
with the refinement theorems of C06 (`Full`, `Optimal` for every lawful node map, `Pm` for every
lawful store / batch map on covered histories): for every history of tree calls started from the
freshly constructed backend, every position at which the backend *reads back* the rate commitment
`H(H(s), limit)` gives a request on which `generate_rln_proof` — fed with the backend's own
`proof` function — returns a 288-byte message that `verify`, `verify_rln_proof` against the
backend's root, and `verify_with_roots` (against `[root]` and against no roots) accept.

`C01_all_backends` states hypotheses and conclusion in full, without `C01B.Valid` / `C01B.Accepts`.
The tree hash is `fun a b => H [a, b]`, the default leaf `0`.
-/
namespace Zk
open Zk.Codec Zk.Protocol Zk.Public Zk.Proto

/-- what C01 asks of the setting and of the request `(s, i, lim, m, e, signal)` for a tree of depth
    `d`: the prover contract, hashes into the field, and every value inside the range its codec and
    the circuit accept -/
structure C01B.Valid {Pr : Type} (Z : Snark Pr) (Pv : Prover Pr) (H : List Nat → Nat)
    (h2f : List UInt8 → Nat) (d s i lim m e : Nat) (signal : List UInt8) : Prop where
  complete : Complete Z Pv H d
  hash_lt : ∀ l, H l < P
  h2f_lt : ∀ b, h2f b < P
  secret_lt : s < P
  limit_lt : lim < P
  epoch_lt : e < P
  index_lt : i < 2 ^ d
  index_u64 : i < 2 ^ 64
  signal_u64 : signal.length < 2 ^ 64
  id_lt : m < lim
  id_u16 : m < 2 ^ 16
  limit_le : lim ≤ m + 2 ^ 16

/-- `generate_rln_proof` fed with `treeProof` answers the request with a 288-byte message that
    `verify`, `verify_rln_proof` against `root`, and `verify_with_roots` against `[root]` and against
    no roots accept -/
def C01B.Accepts {Pr : Type} (Z : Snark Pr) (Pv : Prover Pr) (H : List Nat → Nat)
    (h2f : List UInt8 → Nat) (d s i lim m e : Nat) (signal : List UInt8)
    (treeProof : Nat → Outcome (List (Nat × Nat))) (root : Nat) : Prop :=
  ∃ msg, generateRlnProof Z Pv H h2f d treeProof (prepareProveInput s i lim m e signal) = .ok msg ∧
    msg.length = 288 ∧
    verify Z msg = .ok true ∧
    verifyRlnProof Z h2f root (prepareVerifyInput msg signal) = .ok true ∧
    verifyWithRoots Z h2f (prepareVerifyInput msg signal) (frToBytesLe root) = .ok true ∧
    verifyWithRoots Z h2f (prepareVerifyInput msg signal) [] = .ok true

section
variable {Pr : Type} {Z : Snark Pr} {Pv : Prover Pr} {H : List Nat → Nat} {h2f : List UInt8 → Nat}
  {d s i lim m e : Nat} {signal : List UInt8}

/-- the composition step: a backend whose observables at position `i` are those of an ideal tree
    `sp` of depth `d` (this is what the `obs_eq` lemmas give) -/
theorem C01_of_observables (hv : C01B.Valid Z Pv H h2f d s i lim m e signal) {sp : Tree.Ideal Nat}
    (hdepth : sp.depth = d) {treeProof : Nat → Outcome (List (Nat × Nat))} {root : Nat}
    {getI : Outcome Nat}
    (hroot : root = sp.root (fun a b => H [a, b]) 0)
    (hget : getI = if i < 2 ^ sp.depth then .ok (sp.leaf 0 i) else .err)
    (hproof : treeProof i = if i < 2 ^ sp.depth then .ok (sp.proof (fun a b => H [a, b]) 0 i) else .err)
    (hleaf : getI = .ok (H [H [s], lim])) :
    C01B.Accepts Z Pv H h2f d s i lim m e signal treeProof root := by
  have hit : i < 2 ^ sp.depth := by rw [hdepth]; exact hv.index_lt
  obtain ⟨hp, hg, hlen, _, hbits, hcr⟩ :=
    Tree.Ideal.opening_of_obs (fun a b => H [a, b]) 0 sp hit hroot hget hproof
  rw [show sp.leaf 0 i = H [H [s], lim] from Outcome.ok.inj (hg.symm.trans hleaf)] at hcr
  rw [hdepth] at hlen
  exact C01_prove_then_verify Z Pv H h2f d treeProof root s i lim m e signal _ hv.complete hv.hash_lt
    hv.h2f_lt hv.secret_lt hv.limit_lt hv.epoch_lt hv.index_u64 hv.signal_u64 hv.id_lt hv.id_u16
    hv.limit_le hp hlen hbits hcr

/-! ## FullMerkleTree -/

theorem C01_full_history (hv : C01B.Valid Z Pv H h2f d s i lim m e signal)
    (ops : List (Tree.TreeOp Nat))
    (hleaf : (Tree.Full.run (fun a b => H [a, b]) 0 d ops).get i = .ok (H [H [s], lim])) :
    C01B.Accepts Z Pv H h2f d s i lim m e signal
      (fun j => (Tree.Full.run (fun a b => H [a, b]) 0 d ops).proof j)
      (Tree.Full.run (fun a b => H [a, b]) 0 d ops).root := by
  obtain ⟨o1, _, o3, _, _, o6⟩ :=
    Tree.Full.obs_eq (fun a b => H [a, b]) 0 _ _ (C06_full_refines (fun a b => H [a, b]) 0 d ops)
  exact C01_of_observables hv (Tree.Ideal.run_depth 0 d ops) o1 (o3 i) (o6 i) hleaf

/-! ## OptimalMerkleTree, for every lawful node map `M` -/

theorem C01_optimal_history (hv : C01B.Valid Z Pv H h2f d s i lim m e signal)
    (M : Type) [MapLike M (Nat × Nat) Nat] [LawfulMapLike M (Nat × Nat) Nat] (hd : 0 < d)
    (ops : List (Tree.TreeOp Nat))
    (hleaf : (Tree.Optimal.run (M := M) (fun a b => H [a, b]) 0 d ops).get i = .ok (H [H [s], lim])) :
    C01B.Accepts Z Pv H h2f d s i lim m e signal
      (fun j => (Tree.Optimal.run (M := M) (fun a b => H [a, b]) 0 d ops).proof j)
      (Tree.Optimal.run (M := M) (fun a b => H [a, b]) 0 d ops).root := by
  obtain ⟨o1, _, o3, _, _, o6⟩ :=
    Tree.Optimal.obs_eq M (fun a b => H [a, b]) 0 _ _
      (C06_optimal_refines (fun a b => H [a, b]) 0 M d hd ops)
  exact C01_of_observables hv (Tree.Ideal.run_depth 0 d ops) o1 (o3 i) (o6 i) hleaf

/-! ## persistent tree (pmtree + adapter), on covered histories -/

theorem C01_pm_history (hv : C01B.Valid Z Pv H h2f d s i lim m e signal)
    (D : Type) [MapLike D Tree.PmKey (Tree.PmVal Nat)] [LawfulMapLike D Tree.PmKey (Tree.PmVal Nat)]
    (S : Type) [MapLike S (Nat × Nat) Nat] [LawfulMapLike S (Nat × Nat) Nat] (hd : 0 < d)
    (ops : List (Tree.TreeOp Nat)) (hc : Tree.PmCovered ops)
    (hleaf : (Tree.Pm.run (D := D) S (fun a b => H [a, b]) 0 d ops).get i = .ok (H [H [s], lim])) :
    C01B.Accepts Z Pv H h2f d s i lim m e signal
      (fun j => (Tree.Pm.run (D := D) S (fun a b => H [a, b]) 0 d ops).proof j)
      (Tree.Pm.run (D := D) S (fun a b => H [a, b]) 0 d ops).root := by
  obtain ⟨o1, _, o3, _, _, o6⟩ :=
    Tree.Pm.obs_eq D (fun a b => H [a, b]) 0 _ _
      (C06_pm_refines (fun a b => H [a, b]) 0 D S d hd ops hc)
  exact C01_of_observables hv (Tree.Ideal.run_depth 0 d ops) o1 (o3 i) (o6 i) hleaf

end

/-! ## all three backends -/

/-- on every (covered) history, each backend that reads back the rate commitment at position `i`
    serves a membership path with which the request proves and verifies against that backend's root -/
theorem C01_all_backends :
    ∀ {Pr : Type} (Z : Snark Pr) (Pv : Prover Pr) (H : List Nat → Nat) (h2f : List UInt8 → Nat)
    (M : Type) [MapLike M (Nat × Nat) Nat] [LawfulMapLike M (Nat × Nat) Nat]
    (D : Type) [MapLike D Tree.PmKey (Tree.PmVal Nat)] [LawfulMapLike D Tree.PmKey (Tree.PmVal Nat)]
    (S : Type) [MapLike S (Nat × Nat) Nat] [LawfulMapLike S (Nat × Nat) Nat]
    (d : Nat) (ops : List (Tree.TreeOp Nat)) (s i lim m e : Nat) (signal : List UInt8),
    0 < d →
    Complete Z Pv H d → (∀ l, H l < P) → (∀ b, h2f b < P) →
    s < P → lim < P → e < P → i < 2 ^ d → i < 2 ^ 64 → signal.length < 2 ^ 64 →
    m < lim → m < 2 ^ 16 → lim ≤ m + 2 ^ 16 →
    let Accepts := fun (treeProof : Nat → Outcome (List (Nat × Nat))) (root : Nat) =>
      ∃ msg, generateRlnProof Z Pv H h2f d treeProof (prepareProveInput s i lim m e signal) = .ok msg ∧
        msg.length = 288 ∧
        verify Z msg = .ok true ∧
        verifyRlnProof Z h2f root (prepareVerifyInput msg signal) = .ok true ∧
        verifyWithRoots Z h2f (prepareVerifyInput msg signal) (frToBytesLe root) = .ok true ∧
        verifyWithRoots Z h2f (prepareVerifyInput msg signal) [] = .ok true
    let tF := Tree.Full.run (fun a b => H [a, b]) 0 d ops
    let tO := Tree.Optimal.run (M := M) (fun a b => H [a, b]) 0 d ops
    let tP := Tree.Pm.run (D := D) S (fun a b => H [a, b]) 0 d ops
    (tF.get i = .ok (H [H [s], lim]) → Accepts (fun j => tF.proof j) tF.root) ∧
    (tO.get i = .ok (H [H [s], lim]) → Accepts (fun j => tO.proof j) tO.root) ∧
    (Tree.PmCovered ops → tP.get i = .ok (H [H [s], lim]) → Accepts (fun j => tP.proof j) tP.root) := by
  intro Pr Z Pv H h2f M _ _ D _ _ S _ _ d ops s i lim m e signal hd hC hH hh2f hs hlim he hid hi hsig hml hm16
    hlm
  have hv : C01B.Valid Z Pv H h2f d s i lim m e signal :=
    ⟨hC, hH, hh2f, hs, hlim, he, hid, hi, hsig, hml, hm16, hlm⟩
  exact ⟨C01_full_history hv ops, C01_optimal_history hv M hd ops, C01_pm_history hv D S hd ops⟩

/-! ## non-vacuity: the hypotheses have a model -/

/-- depth 2: secret 5 / limit 10 registered at position 1 after a rejected `set`, an `append` landing
    at position 0, an `Err`-answered delete above the high-water mark and an empty range -/
def C01B.exOps : List (Tree.TreeOp Nat) :=
  [.set 9 1, .append 3, .set 1 (C01.exH [C01.exH [5], 10]), .delete 3, .setRange 7 [], .append 4]

theorem C01B.exOps_covered : Tree.PmCovered C01B.exOps := by decide

abbrev C01B.ExM := AList (Nat × Nat) Nat
abbrev C01B.ExD := AList Tree.PmKey (Tree.PmVal Nat)

theorem C01B.full_get :
    (Tree.Full.run (fun a b => C01.exH [a, b]) 0 2 C01B.exOps).get 1 = .ok (C01.exH [C01.exH [5], 10]) := by
  decide +kernel
theorem C01B.optimal_get :
    (Tree.Optimal.run (M := C01B.ExM) (fun a b => C01.exH [a, b]) 0 2 C01B.exOps).get 1
      = .ok (C01.exH [C01.exH [5], 10]) := by
  decide +kernel
theorem C01B.pm_get :
    (Tree.Pm.run (D := C01B.ExD) C01B.ExM (fun a b => C01.exH [a, b]) 0 2 C01B.exOps).get 1
      = .ok (C01.exH [C01.exH [5], 10]) := by
  decide +kernel

theorem C01B.exValid : C01B.Valid C01.exZ C01.exPv C01.exH C01.exh2f 2 5 1 10 2 9 [1, 2, 3] :=
  ⟨C01.exComplete 2, C01.exH_lt, C01.exh2f_lt, by decide, by decide, by decide, by decide, by decide,
    by decide, by decide, by decide, by decide⟩

example := C01_full_history C01B.exValid C01B.exOps C01B.full_get
example := C01_optimal_history C01B.exValid C01B.ExM (by decide) C01B.exOps C01B.optimal_get
example := C01_pm_history C01B.exValid C01B.ExD C01B.ExM (by decide) C01B.exOps C01B.exOps_covered
  C01B.pm_get

/-- on the example history the three backends report the same root, and it is not the empty tree's -/
example :
    (Tree.Full.run (fun a b => C01.exH [a, b]) 0 2 C01B.exOps).root
      = (Tree.Optimal.run (M := C01B.ExM) (fun a b => C01.exH [a, b]) 0 2 C01B.exOps).root ∧
    (Tree.Full.run (fun a b => C01.exH [a, b]) 0 2 C01B.exOps).root
      = (Tree.Pm.run (D := C01B.ExD) C01B.ExM (fun a b => C01.exH [a, b]) 0 2 C01B.exOps).root ∧
    (Tree.Full.run (fun a b => C01.exH [a, b]) 0 2 C01B.exOps).root ≠
      (Tree.Full.run (fun a b => C01.exH [a, b]) 0 2 []).root := by
  decide +kernel

example := C01_all_backends C01.exZ C01.exPv C01.exH C01.exh2f C01B.ExM C01B.ExD C01B.ExM 2 C01B.exOps
  5 1 10 2 9 [1, 2, 3] (by decide) (C01.exComplete 2) C01.exH_lt C01.exh2f_lt (by decide) (by decide)
  (by decide) (by decide) (by decide) (by decide) (by decide) (by decide) (by decide)

end Zk
