import ZkModel.Identity
import ZkProofs.Lemmas.BytesProofs
/-!
# C10 — identity tuples and single field elements: the encodings written by key generation are
read back exactly; the readers panic exactly on short buffers and never return a non-canonical value
-/
namespace Zk
open Zk.Codec Zk.Protocol Zk.Proto

/-! ## the readers in closed form -/

theorem deserializeIdentityPair_eq (bs : List UInt8) :
    deserializeIdentityPair bs =
      if bs.length < 64 then .panic else .ok (fr32 bs 0, fr32 bs 32) := by
  unfold deserializeIdentityPair
  simp only [bytesLeToFr_eq, List.length_drop, fr32_drop]
  obtain h | h | h : bs.length < 32 ∨ (32 ≤ bs.length ∧ bs.length < 64) ∨ 64 ≤ bs.length := by
    omega
  all_goals simp (disch := omega) only [if_pos, if_neg]

theorem deserializeIdentityTuple_eq (bs : List UInt8) :
    deserializeIdentityTuple bs =
      if bs.length < 128 then .panic else .ok (fr32 bs 0, fr32 bs 32, fr32 bs 64, fr32 bs 96) := by
  unfold deserializeIdentityTuple
  simp only [bytesLeToFr_eq, List.length_drop, fr32_drop]
  obtain h | h | h | h | h : bs.length < 32 ∨ (32 ≤ bs.length ∧ bs.length < 64) ∨
      (64 ≤ bs.length ∧ bs.length < 96) ∨ (96 ≤ bs.length ∧ bs.length < 128) ∨
      128 ≤ bs.length := by
    omega
  all_goals simp (disch := omega) only [if_pos, if_neg]

/-! ## round trips -/

theorem C10_field_element_roundtrip : ∀ v : Nat, v < P →
    deserializeFieldElement (serializeFieldElement v) = .ok v := by
  intro v hv
  simp [deserializeFieldElement, serializeFieldElement, bytesLeToFr_eq, fr32, Nat.mod_eq_of_lt, hv]

/-- `[ secret | commitment ]` is read back exactly -/
theorem C10_identity_pair_roundtrip : ∀ s c : Nat, s < P → c < P →
    deserializeIdentityPair (serializeIdentityPair s c) = .ok (s, c) := by
  intro s c hs hc
  simp [deserializeIdentityPair_eq, serializeIdentityPair, fr32, Nat.mod_eq_of_lt, hs, hc]

/-- `[ trapdoor | nullifier | secret | commitment ]` is read back exactly -/
theorem C10_identity_tuple_roundtrip : ∀ t n s c : Nat, t < P → n < P → s < P → c < P →
    deserializeIdentityTuple (serializeIdentityTuple t n s c) = .ok (t, n, s, c) := by
  intro t n s c ht hn hs hc
  simp [deserializeIdentityTuple_eq, serializeIdentityTuple, fr32, Nat.mod_eq_of_lt, ht, hn, hs, hc]

example : deserializeIdentityTuple (serializeIdentityTuple (P - 1) 0 7 (P - 2)) = .ok (P - 1, 0, 7, P - 2) := by
  decide +kernel

/-! ## short buffers -/

/-- the pair reader panics exactly on buffers shorter than 64 bytes, never errs, and what it
    returns is canonical -/
theorem C10_identity_pair_total : ∀ bs : List UInt8,
    (deserializeIdentityPair bs = .panic ↔ bs.length < 64) ∧ deserializeIdentityPair bs ≠ .err ∧
    (∀ s c, deserializeIdentityPair bs = .ok (s, c) → s < P ∧ c < P) := by
  intro bs
  rw [deserializeIdentityPair_eq]
  by_cases h : bs.length < 64
  · simp [h]
  · simp only [h, if_false, reduceCtorEq, not_false_eq_true, ne_eq, true_and, Outcome.ok.injEq,
      Prod.mk.injEq]
    rintro s c ⟨rfl, rfl⟩
    exact ⟨fr32_lt _ _, fr32_lt _ _⟩

/-- the tuple reader panics exactly on buffers shorter than 128 bytes and never errs -/
theorem C10_identity_tuple_total : ∀ bs : List UInt8,
    (deserializeIdentityTuple bs = .panic ↔ bs.length < 128) ∧ deserializeIdentityTuple bs ≠ .err := by
  intro bs
  rw [deserializeIdentityTuple_eq]
  by_cases h : bs.length < 128 <;> simp [h]

example : deserializeIdentityPair (List.replicate 63 0) = .panic := by decide +kernel

end Zk
