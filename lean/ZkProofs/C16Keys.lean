import ZkModel.Tree.Pm
-- needed beyond `ring`: with it `^` on `Nat` elaborates through Mathlib's `Monoid.npow`, and `be8`, `encodeKey`,
-- `ValidKey` and the statements below are those terms
import Mathlib.Tactic.Ring
/-!
# C16 / C06 — the database keys of the persistent tree are distinct (discharges a modelling assumption)

`ZkModel/Tree/Pm.lean` keeps the key–value store abstract over `PmKey` (`node d i`, the two counters, the metadata slot).
pmtree 2.0.2 encodes a node key `(depth, index)` as the big-endian bytes of the Cantor pairing
`(d + i) * (d + i + 1) / 2 + i` computed in `usize` and cast to `u64`, and reserves `u64::MAX - 1` (depth), `u64::MAX`
(leaf count) and the eight bytes `b"metadata"`. The model is faithful only if that encoding is injective on the keys a tree
uses. This file proves it for every tree of depth at most 31 (zerokit uses 20): no two distinct keys share their bytes, no
arithmetic wraps, and the metadata slot is not a node.

`encodeKey` is the code's function on mathematical integers reduced modulo 2^64 (what `as u64` and wrapping `usize`
arithmetic produce on a 64-bit target).
-/
namespace Zk.Tree

def tri (w : Nat) : Nat := w * (w + 1) / 2

def cantor (d i : Nat) : Nat := tri (d + i) + i

def be8 (n : Nat) : List UInt8 := (List.range 8).map (fun k => UInt8.ofNat (n / 256 ^ (7 - k) % 256))

/-- `DBKey::from(Key(d, i))`, `DEPTH_KEY`, `NEXT_INDEX_KEY`, the metadata key -/
def encodeKey : PmKey → List UInt8
  | .node d i => be8 (((d + i) * (d + i + 1) % 2 ^ 64 / 2 + i) % 2 ^ 64)
  | .depthKey => be8 (2 ^ 64 - 2)
  | .nextKey => be8 (2 ^ 64 - 1)
  | .metaKey => "metadata".toUTF8.toList

def ValidKey : PmKey → Prop
  | .node d i => d ≤ 31 ∧ i < 2 ^ d
  | _ => True

theorem two_mul_tri (w : Nat) : 2 * tri w = w * (w + 1) :=
  Nat.mul_div_cancel' (even_iff_two_dvd.mp (Nat.even_mul_succ_self w))

theorem tri_mono {a b : Nat} (h : a ≤ b) : tri a ≤ tri b := by
  have ha := two_mul_tri a
  have hb := two_mul_tri b
  have : a * (a + 1) ≤ b * (b + 1) := Nat.mul_le_mul h (by omega)
  omega

theorem u8_ofNat_inj (a b : Nat) (h : UInt8.ofNat a = UInt8.ofNat b) : a % 256 = b % 256 := by
  have := congrArg UInt8.toNat h
  simpa [UInt8.toNat_ofNat] using this

theorem mod_pow_eq_of_digits (b k m n : Nat) (h : ∀ j, j < k → m / b ^ j % b = n / b ^ j % b) :
    m % b ^ k = n % b ^ k := by
  induction k with
  | zero => rw [Nat.pow_zero, Nat.mod_one, Nat.mod_one]
  | succ k ih =>
    rw [Nat.mod_pow_succ, Nat.mod_pow_succ, ih (fun j hj => h j (by omega)), h k (by omega)]

theorem meta_bytes : "metadata".toUTF8.toList = be8 0x6d65746164617461 := by
  decide +kernel

theorem tri_succ (w : Nat) : tri (w + 1) = tri w + w + 1 := by
  have h1 := two_mul_tri w
  have h2 := two_mul_tri (w + 1)
  have h3 : (w + 1) * (w + 1 + 1) = w * (w + 1) + 2 * (w + 1) := by ring
  omega

theorem cantor_injective (a b c d : Nat) (h : cantor a b = cantor c d) : a = c ∧ b = d := by
  unfold cantor at h
  have key : ∀ x y : Nat, x < y → ∀ p q : Nat, p ≤ x → tri x + p < tri y + q := by
    intro x y hxy p q hp
    have h1 := tri_succ x
    have h2 : tri (x + 1) ≤ tri y := tri_mono hxy
    omega
  rcases Nat.lt_trichotomy (a + b) (c + d) with hlt | heq | hgt
  · have := key _ _ hlt b d (by omega)
    omega
  · rw [heq] at h
    omega
  · have := key _ _ hgt d b (by omega)
    omega

/-- no wrap-around for valid node keys: the code's `usize` arithmetic is the mathematical Cantor pairing -/
theorem encodeKey_node_eq (d i : Nat) (h : ValidKey (.node d i)) : encodeKey (.node d i) = be8 (cantor d i) ∧ cantor d i < 2 ^ 62 := by
  obtain ⟨hd, hi⟩ := h
  have hpow : 2 ^ d ≤ 2 ^ 31 := Nat.pow_le_pow_right (by decide) hd
  have hw : d + i + 1 ≤ 2 ^ 31 + 32 := by omega
  have hprod : (d + i) * (d + i + 1) ≤ (2 ^ 31 + 32) * (2 ^ 31 + 32) := Nat.mul_le_mul (by omega) hw
  have h2 := two_mul_tri (d + i)
  have hlt : (d + i) * (d + i + 1) < 2 ^ 64 := by omega
  have hc : cantor d i < 2 ^ 62 := by
    unfold cantor
    omega
  refine ⟨?_, hc⟩
  show be8 (((d + i) * (d + i + 1) % 2 ^ 64 / 2 + i) % 2 ^ 64) = be8 (cantor d i)
  rw [Nat.mod_eq_of_lt hlt]
  have : (d + i) * (d + i + 1) / 2 + i = cantor d i := rfl
  rw [this, Nat.mod_eq_of_lt (by omega)]

theorem be8_injective (m n : Nat) (hm : m < 2 ^ 64) (hn : n < 2 ^ 64) (h : be8 m = be8 n) : m = n := by
  have hd : ∀ j, j < 8 → m / 256 ^ j % 256 = n / 256 ^ j % 256 := by
    intro j hj
    have := u8_ofNat_inj _ _ (List.map_inj_left.mp h (7 - j) (List.mem_range.mpr (by omega)))
    rwa [Nat.mod_mod, Nat.mod_mod, show 7 - (7 - j) = j by omega] at this
  have := mod_pow_eq_of_digits 256 8 m n hd
  rwa [show (256 : Nat) ^ 8 = 2 ^ 64 by decide, Nat.mod_eq_of_lt hm, Nat.mod_eq_of_lt hn] at this

def keyCode : PmKey → Nat
  | .node d i => cantor d i
  | .depthKey => 2 ^ 64 - 2
  | .nextKey => 2 ^ 64 - 1
  | .metaKey => 0x6d65746164617461

theorem encodeKey_eq (k : PmKey) (h : ValidKey k) : encodeKey k = be8 (keyCode k) ∧ keyCode k < 2 ^ 64 := by
  cases k with
  | node d i =>
    obtain ⟨e, hc⟩ := encodeKey_node_eq d i h
    exact ⟨e, show cantor d i < 2 ^ 64 by omega⟩
  | depthKey => exact ⟨rfl, by decide⟩
  | nextKey => exact ⟨rfl, by decide⟩
  | metaKey => exact ⟨meta_bytes, by decide⟩

/-- the whole encoding is injective on valid keys -/
theorem C16_db_keys_injective (k1 k2 : PmKey) (h1 : ValidKey k1) (h2 : ValidKey k2) (h : encodeKey k1 = encodeKey k2) : k1 = k2 := by
  obtain ⟨e1, c1⟩ := encodeKey_eq k1 h1
  obtain ⟨e2, c2⟩ := encodeKey_eq k2 h2
  have hc : keyCode k1 = keyCode k2 := be8_injective _ _ c1 c2 (by rw [← e1, ← e2, h])
  -- node codes are below 2^62, the three reserved codes are distinct numbers above it
  have hn : ∀ d i, ValidKey (.node d i) → cantor d i < 2 ^ 62 := fun d i hv => (encodeKey_node_eq d i hv).2
  cases k1 with
  | node d i =>
    have := hn d i h1
    cases k2 with
    | node d' i' =>
      obtain ⟨rfl, rfl⟩ := cantor_injective _ _ _ _ hc
      rfl
    | depthKey | nextKey | metaKey =>
      simp only [keyCode] at hc
      omega
  | depthKey =>
    cases k2 with
    | node d i =>
      have := hn d i h2
      simp only [keyCode] at hc
      omega
    | depthKey => rfl
    | nextKey | metaKey =>
      simp only [keyCode] at hc
      omega
  | nextKey =>
    cases k2 with
    | node d i =>
      have := hn d i h2
      simp only [keyCode] at hc
      omega
    | nextKey => rfl
    | depthKey | metaKey =>
      simp only [keyCode] at hc
      omega
  | metaKey =>
    cases k2 with
    | node d i =>
      have := hn d i h2
      simp only [keyCode] at hc
      omega
    | metaKey => rfl
    | depthKey | nextKey =>
      simp only [keyCode] at hc
      omega

/-- non-vacuity / sanity: the root of a depth-20 tree, its last leaf, and the reserved keys -/
example : encodeKey (.node 0 0) = [0, 0, 0, 0, 0, 0, 0, 0] ∧ encodeKey (.node 20 (2 ^ 20 - 1)) = be8 (cantor 20 (2 ^ 20 - 1)) ∧
    encodeKey .metaKey = [0x6d, 0x65, 0x74, 0x61, 0x64, 0x61, 0x74, 0x61] ∧ ValidKey (.node 20 (2 ^ 20 - 1)) := by
  refine ⟨by decide, ?_, by decide +kernel, ?_⟩
  · exact (encodeKey_node_eq 20 (2 ^ 20 - 1) (by unfold ValidKey; omega)).1
  · unfold ValidKey; omega

end Zk.Tree
