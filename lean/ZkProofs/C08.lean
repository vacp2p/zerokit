import ZkProofs.Lemmas.TreeRunLemmas
/-!
# C08 — the batch update (`override_range`) on every reachable state

`Ideal.batch` is the documented behaviour: reset every removed position, then write the new leaves
at consecutive positions; reject (changing nothing) when the range or a removal is beyond capacity
or when there is nothing to do. On every state reachable by a history, `override_range` of the flat
and of the sparse tree yields a tree related to the ideal result, or rejects exactly when the
specification rejects; it never panics. `init_tree_with_leaves` is the batch on a fresh tree.

The persistent backend's `override_range` satisfies this only for an empty removal list
(`Pm.batch_rel_partial`; open finding C08-pm-batch, see `C08Pm.lean`).
-/
namespace Zk

open Tree

variable {α : Type} [Inhabited α] (H : α → α → α) (dflt : α)

-- The examples instantiate the theorems at concrete histories. Looking through a result type for
-- further arguments, the elaborator would unfold `RefinesOutcome` and run the history to decide its
-- `match`; no proof below needs it unfolded.
attribute [local irreducible] Tree.RefinesOutcome

def C08.exH : Nat → Nat → Nat := fun a b => 1000 * a + b + 7
def C08.exOps : List (TreeOp Nat) := [.set 1 5, .set 9 1, .append 3]
abbrev C08.ExM := AList (Nat × Nat) Nat

/-! ## FullMerkleTree -/

theorem C08_full_batch : ∀ (d : Nat) (ops : List (TreeOp α)) (start : Nat) (vs : List α) (rem : List Nat),
    Tree.RefinesOutcome (Tree.Full.Rel H dflt) (Tree.Full.run H dflt d ops) (Tree.Ideal.run dflt d ops)
      (Tree.Full.overrideRange H dflt (Tree.Full.run H dflt d ops) start vs rem)
      (Tree.Ideal.batch dflt (Tree.Ideal.run dflt d ops) start vs rem) :=
  fun d ops start vs rem => Full.batch_rel H dflt _ _ start vs rem (Full.run_rel H dflt d ops)

example := C08_full_batch C08.exH 0 2 C08.exOps 2 [7, 8] [1]
/-- accepted: positions 2, 3 written, position 1 reset -/
example : (Tree.Full.overrideRange C08.exH 0 (Tree.Full.run C08.exH 0 2 C08.exOps) 2 [7, 8] [1]).map
      (fun t => ([t.get 0, t.get 1, t.get 2, t.get 3], t.next, t.emptyIdx)) =
    .ok ([.ok 0, .ok 0, .ok 7, .ok 8], 4, [0, 1]) ∧
    (Tree.Ideal.batch 0 (Tree.Ideal.run 0 2 C08.exOps) 2 [7, 8] [1]).map
      (fun s => ([s.leaf 0 0, s.leaf 0 1, s.leaf 0 2, s.leaf 0 3], s.next, s.emptyIdx)) =
    .ok ([0, 0, 7, 8], 4, [0, 1]) := by decide +kernel
/-- rejected on both sides: does not fit / removal beyond capacity / nothing to do -/
example : (Tree.Full.overrideRange C08.exH 0 (Tree.Full.run C08.exH 0 2 C08.exOps) 3 [7, 8] []).isOk = false ∧
    (Tree.Ideal.batch 0 (Tree.Ideal.run 0 2 C08.exOps) 3 [7, 8] []).isOk = false ∧
    (Tree.Full.overrideRange C08.exH 0 (Tree.Full.run C08.exH 0 2 C08.exOps) 0 [7] [4]).isOk = false ∧
    (Tree.Ideal.batch 0 (Tree.Ideal.run 0 2 C08.exOps) 0 [7] [4]).isOk = false ∧
    (Tree.Full.overrideRange C08.exH 0 (Tree.Full.run C08.exH 0 2 C08.exOps) 0 [] []).isOk = false ∧
    (Tree.Ideal.batch 0 (Tree.Ideal.run 0 2 C08.exOps) 0 [] []).isOk = false := by decide +kernel

theorem C08_full_never_panics : ∀ (d : Nat) (ops : List (TreeOp α)) (start : Nat) (vs : List α) (rem : List Nat),
    Tree.Full.overrideRange H dflt (Tree.Full.run H dflt d ops) start vs rem ≠ .panic :=
  fun d ops start vs rem => (C08_full_batch H dflt d ops start vs rem).keep.2.2

example := C08_full_never_panics C08.exH 0 2 C08.exOps 0 [] []

/-! ## OptimalMerkleTree, for every lawful node map `M` -/

variable (M : Type) [MapLike M (Nat × Nat) α] [LawfulMapLike M (Nat × Nat) α]

theorem C08_optimal_batch : ∀ d : Nat, 0 < d →
    ∀ (ops : List (TreeOp α)) (start : Nat) (vs : List α) (rem : List Nat),
    Tree.RefinesOutcome (Tree.Optimal.Rel H dflt) (Tree.Optimal.run (M := M) H dflt d ops)
      (Tree.Ideal.run dflt d ops)
      (Tree.Optimal.overrideRange H dflt (Tree.Optimal.run (M := M) H dflt d ops) start vs rem)
      (Tree.Ideal.batch dflt (Tree.Ideal.run dflt d ops) start vs rem) :=
  fun d hd ops start vs rem =>
    Optimal.batch_rel M H dflt _ _ start vs rem (Optimal.run_rel M H dflt d hd ops)

example := C08_optimal_batch C08.exH 0 C08.ExM 2 (by decide) C08.exOps 2 [7, 8] [1]
example : (Tree.Optimal.overrideRange C08.exH 0
      (Tree.Optimal.run (M := C08.ExM) C08.exH 0 2 C08.exOps) 2 [7, 8] [1]).map
      (fun t => ([t.get 0, t.get 1, t.get 2, t.get 3], t.next, t.emptyIdx)) =
    .ok ([.ok 0, .ok 0, .ok 7, .ok 8], 4, [0, 1]) ∧
    (Tree.Optimal.overrideRange C08.exH 0
      (Tree.Optimal.run (M := C08.ExM) C08.exH 0 2 C08.exOps) 3 [7, 8] []).isOk = false ∧
    (Tree.Optimal.overrideRange C08.exH 0
      (Tree.Optimal.run (M := C08.ExM) C08.exH 0 2 C08.exOps) 0 [7] [4]).isOk = false := by decide +kernel

theorem C08_optimal_never_panics : ∀ d : Nat, 0 < d →
    ∀ (ops : List (TreeOp α)) (start : Nat) (vs : List α) (rem : List Nat),
    Tree.Optimal.overrideRange H dflt (Tree.Optimal.run (M := M) H dflt d ops) start vs rem ≠ .panic :=
  fun d hd ops start vs rem => (C08_optimal_batch H dflt M d hd ops start vs rem).keep.2.2

/-- `override_range` never panics on a reachable state of either in-memory backend -/
theorem C08_never_panics : ∀ d : Nat, 0 < d →
    ∀ (ops : List (TreeOp α)) (start : Nat) (vs : List α) (rem : List Nat),
    Tree.Full.overrideRange H dflt (Tree.Full.run H dflt d ops) start vs rem ≠ .panic ∧
    Tree.Optimal.overrideRange H dflt (Tree.Optimal.run (M := M) H dflt d ops) start vs rem ≠ .panic :=
  fun d hd ops start vs rem => ⟨C08_full_never_panics H dflt d ops start vs rem,
    C08_optimal_never_panics H dflt M d hd ops start vs rem⟩

example := C08_never_panics C08.exH 0 C08.ExM 2 (by decide) C08.exOps 9 [1] [9]

/-! ## `init_tree_with_leaves` is the batch on a fresh tree -/

/-- `Full.initTreeWithLeaves` / `Optimal.initTreeWithLeaves` (`set_tree(new)` then
    `set_leaves_from(0, vs)` = `override_range(0, vs, [])`) refine the ideal batch on the fresh tree -/
theorem C08_init_is_fresh_batch : ∀ (d : Nat) (vs : List α),
    Tree.RefinesOutcome (Tree.Full.Rel H dflt) (Tree.Full.new H dflt d) (Tree.Ideal.new d)
      (Tree.Full.initTreeWithLeaves H dflt d vs) (Tree.Ideal.batch dflt (Tree.Ideal.new d) 0 vs []) ∧
    (0 < d →
      Tree.RefinesOutcome (Tree.Optimal.Rel H dflt) (Tree.Optimal.new (M := M) H dflt d) (Tree.Ideal.new d)
        (Tree.Optimal.initTreeWithLeaves H dflt d vs) (Tree.Ideal.batch dflt (Tree.Ideal.new d) 0 vs [])) :=
  fun d vs => ⟨Full.batch_rel H dflt _ _ 0 vs [] (Full.new_rel H dflt d),
    fun hd => Optimal.batch_rel M H dflt _ _ 0 vs [] (Optimal.new_rel M H dflt d hd)⟩

example := C08_init_is_fresh_batch C08.exH 0 C08.ExM 2 [4, 5, 6]

-- this statement takes the section's `[Inhabited α]`; the specification needs none
set_option linter.unusedSectionVars false in
/-- the specification side: a non-empty list that fits gives exactly `vs` followed by defaults -/
theorem C08_init_spec_leaves : ∀ (d : Nat) (vs : List α), vs ≠ [] → vs.length ≤ 2 ^ d →
    ∃ s', Tree.Ideal.batch dflt (Tree.Ideal.new d) 0 vs [] = .ok s' ∧ s'.depth = d ∧
      s'.next = vs.length ∧ ∀ i, s'.leaf dflt i = vs.getD i dflt := by
  intro d vs hne hfit
  have hE : vs.isEmpty = false := List.isEmpty_eq_false_iff.mpr hne
  refine ⟨{ Ideal.writeMany (Ideal.new d) 0 vs with next := vs.length }, ?_, ?_, rfl, fun i => ?_⟩
  · rw [Ideal.batch_nil dflt _ 0 hne, Ideal.setRange, if_pos (by simp [Ideal.cap, Ideal.new]; omega)]
    simp [hE, Ideal.new]
  · exact Ideal.writeMany_depth _ _ _
  · show (Ideal.writeMany (Ideal.new d) 0 vs).leaf dflt i = _
    rw [Ideal.leaf_writeMany]
    simp [Ideal.overlay, Ideal.leaf, Ideal.new, List.getD]

theorem C08.init_leaves_of_refines {σ : Type} {R : σ → Tree.Ideal α → Prop} {t0 : σ} {ot : Outcome σ}
    {d : Nat} {vs : List α} (hne : vs ≠ []) (hfit : vs.length ≤ 2 ^ d)
    (h : Tree.RefinesOutcome R t0 (Tree.Ideal.new d) ot (Tree.Ideal.batch dflt (Tree.Ideal.new d) 0 vs []))
    {next : σ → Nat} {get : σ → Nat → Outcome α}
    (hobs : ∀ t s, R t s → next t = s.next ∧
      ∀ i, get t i = if i < 2 ^ s.depth then .ok (s.leaf dflt i) else .err) :
    ∃ t', ot = .ok t' ∧ next t' = vs.length ∧
      ∀ i, get t' i = if i < 2 ^ d then .ok (vs.getD i dflt) else .err := by
  obtain ⟨s', hs, hd, hn, hl⟩ := C08_init_spec_leaves dflt d vs hne hfit
  rw [hs] at h
  obtain ⟨t', ht, hr⟩ := h.ok_right
  obtain ⟨o2, o3⟩ := hobs t' s' hr
  exact ⟨t', ht, o2.trans hn, fun i => by rw [o3, hd, hl]⟩

/-- the flat tree: accepted, `next` is the number of leaves, position `i` holds `vs[i]` or the default -/
theorem C08_full_init_leaves : ∀ (d : Nat) (vs : List α), vs ≠ [] → vs.length ≤ 2 ^ d →
    ∃ t', Tree.Full.initTreeWithLeaves H dflt d vs = .ok t' ∧ t'.next = vs.length ∧
      ∀ i, t'.get i = if i < 2 ^ d then .ok (vs.getD i dflt) else .err :=
  fun d vs hne hfit =>
    C08.init_leaves_of_refines dflt hne hfit (Full.batch_rel H dflt _ _ 0 vs [] (Full.new_rel H dflt d))
      fun t s h => by
        obtain ⟨-, hnext, hget, -⟩ := Full.obs_eq H dflt t s h
        exact ⟨hnext, hget⟩

example : (Tree.Full.initTreeWithLeaves C08.exH 0 2 [4, 5, 6]).map
    (fun t => ([t.get 0, t.get 1, t.get 2, t.get 3], t.next)) = .ok ([.ok 4, .ok 5, .ok 6, .ok 0], 3) := by
  decide

theorem C08_optimal_init_leaves : ∀ d : Nat, 0 < d → ∀ vs : List α, vs ≠ [] → vs.length ≤ 2 ^ d →
    ∃ t', Tree.Optimal.initTreeWithLeaves (M := M) H dflt d vs = .ok t' ∧ t'.next = vs.length ∧
      ∀ i, t'.get i = if i < 2 ^ d then .ok (vs.getD i dflt) else .err :=
  fun d hd vs hne hfit =>
    C08.init_leaves_of_refines dflt hne hfit ((C08_init_is_fresh_batch H dflt M d vs).2 hd)
      fun t s h => by
        obtain ⟨-, hnext, hget, -⟩ := Optimal.obs_eq M H dflt t s h
        exact ⟨hnext, hget⟩

example : (Tree.Optimal.initTreeWithLeaves (M := C08.ExM) C08.exH 0 2 [4, 5, 6]).map
    (fun t => ([t.get 0, t.get 1, t.get 2, t.get 3], t.next)) = .ok ([.ok 4, .ok 5, .ok 6, .ok 0], 3) := by
  decide

end Zk
