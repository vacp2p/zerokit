import ZkProofs.Lemmas.PmRun
/-!
# C06 / C07 / C15 for the persistent tree (pmtree + adapter), no storage failure injected

For every history of `set / delete / append / setRange / batch with an empty removal list / reset`
(`PmCovered`), started from `Pm.new` on an empty store, the persistent backend is related to the
ideal tree run on the same calls; its observables, membership proofs and empty-leaf list are the
specification's. `Pm.step` is the state a call leaves behind whatever it returned (pmtree answers a
`delete` at or above the high-water mark with `Err`, the specification treats it as a no-op: the
states agree either way; the adapter accepts the empty `set_range` unconditionally: no change on
either side).

Not covered: `override_range` with a non-empty removal list (open finding C08-pm-batch).
Generic in the node type `α`, the hash `H`, the default leaf `dflt`, every lawful store map `D` and
every lawful batch map `S`.
-/
namespace Zk

open Tree

variable {α : Type} [Inhabited α] (H : α → α → α) (dflt : α)
  (D : Type) [MapLike D PmKey (PmVal α)] [LawfulMapLike D PmKey (PmVal α)]
  (S : Type) [MapLike S (Nat × Nat) α] [LawfulMapLike S (Nat × Nat) α]

def C06Pm.exH : Nat → Nat → Nat := fun a b => 1000 * a + b + 7
/-- depth 2: `set 9 1` rejected, `delete 3` answered `Err` (above the high-water mark), the empty
    range at 7 accepted as a no-op, a batch without removals -/
def C06Pm.exOps : List (TreeOp Nat) :=
  [.set 1 5, .set 9 1, .append 3, .delete 3, .setRange 7 [], .batch 2 [6, 4] [], .delete 2]
abbrev C06Pm.ExD := AList PmKey (PmVal Nat)
abbrev C06Pm.ExS := AList (Nat × Nat) Nat

theorem C06Pm.exOps_covered : Tree.PmCovered C06Pm.exOps := by decide

theorem C06_pm_refines : ∀ d : Nat, 0 < d → ∀ ops : List (TreeOp α), Tree.PmCovered ops →
    Tree.Pm.Rel H dflt (Tree.Pm.run (D := D) S H dflt d ops) (Tree.Ideal.run dflt d ops) :=
  fun d hd ops hc => Pm.run_rel S H dflt d hd ops hc

example := C06_pm_refines C06Pm.exH 0 C06Pm.ExD C06Pm.ExS 2 (by decide) C06Pm.exOps C06Pm.exOps_covered
example : (Tree.Pm.run (D := C06Pm.ExD) C06Pm.ExS C06Pm.exH 0 2 C06Pm.exOps).root = 12018 ∧
    (Tree.Ideal.run 0 2 C06Pm.exOps).root C06Pm.exH 0 = 12018 := by decide +kernel

theorem C06_pm_observables : ∀ d : Nat, 0 < d → ∀ ops : List (TreeOp α), Tree.PmCovered ops →
    (Tree.Pm.run (D := D) S H dflt d ops).root = (Tree.Ideal.run dflt d ops).root H dflt ∧
    (Tree.Pm.run (D := D) S H dflt d ops).next = (Tree.Ideal.run dflt d ops).next ∧
    (∀ i, (Tree.Pm.run (D := D) S H dflt d ops).get i =
      if i < 2 ^ d then .ok ((Tree.Ideal.run dflt d ops).leaf dflt i) else .err) ∧
    (∀ l i, (Tree.Pm.run (D := D) S H dflt d ops).getSubtreeRoot l i =
      if l > d ∨ i ≥ 2 ^ d then .err
      else .ok ((Tree.Ideal.run dflt d ops).node H dflt l (i / 2 ^ (d - l)))) := by
  intro d hd ops hc
  have h := Pm.obs_eq D H dflt _ _ (C06_pm_refines H dflt D S d hd ops hc)
  rw [Ideal.run_depth] at h
  obtain ⟨hroot, hnext, hget, hsub, -, -⟩ := h
  exact ⟨hroot, hnext, hget, hsub⟩

example : (fun t : Tree.Pm Nat C06Pm.ExD => (t.next, [t.get 1, t.get 2, t.get 3, t.get 4, t.getSubtreeRoot 1 3]))
      (Tree.Pm.run (D := C06Pm.ExD) C06Pm.ExS C06Pm.exH 0 2 C06Pm.exOps) =
    (4, [.ok 5, .ok 0, .ok 4, .err, .ok 11]) := by decide +kernel

/-- C07 completeness on the persistent backend -/
theorem C07_pm_proof_complete [BEq α] [LawfulBEq α] :
    ∀ d : Nat, 0 < d → ∀ ops : List (TreeOp α), Tree.PmCovered ops → ∀ i : Nat, i < 2 ^ d →
    ∃ π, (Tree.Pm.run (D := D) S H dflt d ops).proof i = .ok π ∧
      (Tree.Pm.run (D := D) S H dflt d ops).get i = .ok ((Tree.Ideal.run dflt d ops).leaf dflt i) ∧
      π.length = d ∧
      π.foldr (fun x acc => 2 * acc + x.2) 0 = i ∧
      (∀ x ∈ π, x.2 = 0 ∨ x.2 = 1) ∧
      Tree.Pm.computeRootFrom H ((Tree.Ideal.run dflt d ops).leaf dflt i) π
        = (Tree.Pm.run (D := D) S H dflt d ops).root ∧
      Tree.Pm.verify H (Tree.Pm.run (D := D) S H dflt d ops)
        ((Tree.Ideal.run dflt d ops).leaf dflt i) π = .ok true := by
  intro d hd ops hc i hi
  have h := Pm.proof_complete_of_rel H dflt (Pm.run_rel (D := D) S H dflt d hd ops hc) i
    (by rw [Ideal.run_depth]; exact hi)
  rw [Ideal.run_depth] at h
  exact h

example := C07_pm_proof_complete C06Pm.exH 0 C06Pm.ExD C06Pm.ExS 2 (by decide) C06Pm.exOps
  C06Pm.exOps_covered 3 (by decide)
example : (fun t : Tree.Pm Nat C06Pm.ExD =>
      (t.proof 3, Tree.Pm.verify C06Pm.exH t 4 [(0, 1), (12, 1)], Tree.Pm.verify C06Pm.exH t 5 [(0, 1), (12, 1)]))
      (Tree.Pm.run (D := C06Pm.ExD) C06Pm.ExS C06Pm.exH 0 2 C06Pm.exOps) =
    (.ok [(0, 1), (12, 1)], .ok true, .err) := by decide +kernel

/-- C15 on the persistent backend -/
theorem C15_pm_empties : ∀ d : Nat, 0 < d → ∀ ops : List (TreeOp α), Tree.PmCovered ops →
    (Tree.Pm.run (D := D) S H dflt d ops).emptyIdx = (Tree.Ideal.run dflt d ops).emptyIdx := by
  intro d hd ops hc
  obtain ⟨-, -, -, -, hempty, -⟩ := Pm.obs_eq D H dflt _ _ (C06_pm_refines H dflt D S d hd ops hc)
  exact hempty

example : (Tree.Pm.run (D := C06Pm.ExD) C06Pm.ExS C06Pm.exH 0 2 C06Pm.exOps).emptyIdx = [0, 2] ∧
    (Tree.Ideal.run 0 2 C06Pm.exOps).emptyIdx = [0, 2] := by decide +kernel

end Zk
