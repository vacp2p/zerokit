import ZkProofs.C06
import ZkProofs.C06Pm
/-!
# C17 — the three tree backends cannot be told apart

On every history of single-leaf writes, appends and deletions started from the freshly constructed
tree, the flat tree (`Tree.Full`), the sparse tree (`Tree.Optimal`, every lawful node map `M`) and
the persistent tree (pmtree + adapter `Tree.Pm`, every lawful store map `D` and batch map `S`, no
storage failure injected) have the same root, the same high-water mark, answer every `get` alike and
return the same membership path for every index (`C17_all_backends_same_roots_and_paths`): each one
refines the ideal tree (C06), so all observables are the specification's. The common path of an
index below the capacity has one sibling per level and direction bits in {0,1} that spell the index,
least significant bit first — the `path_elements` / `identity_path_index` inputs of the circuit — and
recomputes the common root from the common leaf (`C17_paths_in_circuit_format`): a witness built
under one backend is the witness built under any other.

Generic in the node type `α`, the hash `H`, the default leaf `dflt`.
-/
namespace Zk

open Tree

variable {α : Type} [Inhabited α] (H : α → α → α) (dflt : α)
  (M : Type) [MapLike M (Nat × Nat) α] [LawfulMapLike M (Nat × Nat) α]
  (D : Type) [MapLike D PmKey (PmVal α)] [LawfulMapLike D PmKey (PmVal α)]
  (S : Type) [MapLike S (Nat × Nat) α] [LawfulMapLike S (Nat × Nat) α]

/-- histories the property quantifies over: single-leaf writes, appends, deletions -/
def SimpleHistory (ops : List (Tree.TreeOp α)) : Prop :=
  ∀ op ∈ ops, match op with | .set _ _ | .append _ | .delete _ => True | _ => False

omit [Inhabited α] in
theorem SimpleHistory.pmCovered {ops : List (Tree.TreeOp α)} (h : SimpleHistory ops) :
    Tree.PmCovered ops := by
  intro op hop
  have := h op hop
  cases op with
  | batch => exact this.elim
  | set | delete | append | setRange | reset => trivial

def C17.exH : Nat → Nat → Nat := fun a b => 1000 * a + b + 7
/-- depth 2: `set 9 1` is rejected everywhere, `delete 3` is above the high-water mark -/
def C17.exOps : List (TreeOp Nat) := [.set 1 5, .set 9 1, .append 3, .delete 3, .set 0 8, .delete 0, .append 6]
abbrev C17.ExM := AList (Nat × Nat) Nat
abbrev C17.ExD := AList PmKey (PmVal Nat)
abbrev C17.ExS := AList (Nat × Nat) Nat

theorem C17.exOps_simple : SimpleHistory C17.exOps := by
  intro op h
  simp only [C17.exOps, List.mem_cons, List.not_mem_nil, or_false] at h
  rcases h with h | h | h | h | h | h | h <;> subst h <;> trivial

theorem C17_all_backends_same_roots_and_paths (d : Nat) (hd : 0 < d) (ops : List (TreeOp α))
    (h : SimpleHistory ops) :
    let f := Tree.Full.run H dflt d ops
    let o := Tree.Optimal.run (M := M) H dflt d ops
    let p := Tree.Pm.run (D := D) S H dflt d ops
    f.root = o.root ∧ o.root = p.root ∧ f.next = p.next ∧
    (∀ i, f.get i = o.get i ∧ o.get i = p.get i) ∧
    (∀ i, f.proof i = o.proof i ∧ o.proof i = p.proof i) := by
  intro f o p
  obtain ⟨f1, f2, f3, _, _, f6⟩ := Full.obs_eq H dflt _ _ (C06_full_refines H dflt d ops)
  obtain ⟨o1, _, o3, _, _, o6⟩ := Optimal.obs_eq M H dflt _ _ (C06_optimal_refines H dflt M d hd ops)
  obtain ⟨p1, p2, p3, _, _, p6⟩ := Pm.obs_eq D H dflt _ _ (C06_pm_refines H dflt D S d hd ops h.pmCovered)
  refine ⟨f1.trans o1.symm, o1.trans p1.symm, f2.trans p2.symm, fun i => ⟨?_, ?_⟩, fun i => ⟨?_, ?_⟩⟩
  · exact (f3 i).trans (o3 i).symm
  · exact (o3 i).trans (p3 i).symm
  · exact (f6 i).trans (o6 i).symm
  · exact (o6 i).trans (p6 i).symm

example := C17_all_backends_same_roots_and_paths C17.exH 0 C17.ExM C17.ExD C17.ExS 2 (by decide)
  C17.exOps C17.exOps_simple
/-- what the examples compare: root, high-water mark, three reads (one out of range) -/
def C17.exGets : List (Outcome Nat) := [.ok 5, .ok 6, .err]
/-- … and three paths (one out of range) -/
def C17.exPaths : List (Outcome (List (Nat × Nat))) := [.ok [(5, 0), (3013, 0)], .ok [(3, 1), (12, 1)], .err]

example :
    (fun t : Tree.Full Nat => (t.root, t.next, [t.get 1, t.get 3, t.get 4]))
      (Tree.Full.run C17.exH 0 2 C17.exOps) = (15020, 4, C17.exGets) ∧
    (fun t : Tree.Full Nat => [t.proof 0, t.proof 3, t.proof 4])
      (Tree.Full.run C17.exH 0 2 C17.exOps) = C17.exPaths := by decide +kernel
example :
    (fun t : Tree.Optimal Nat C17.ExM => (t.root, t.next, [t.get 1, t.get 3, t.get 4]))
      (Tree.Optimal.run (M := C17.ExM) C17.exH 0 2 C17.exOps) = (15020, 4, C17.exGets) ∧
    (fun t : Tree.Optimal Nat C17.ExM => [t.proof 0, t.proof 3, t.proof 4])
      (Tree.Optimal.run (M := C17.ExM) C17.exH 0 2 C17.exOps) = C17.exPaths := by decide +kernel
example :
    (fun t : Tree.Pm Nat C17.ExD => (t.root, t.next, [t.get 1, t.get 3, t.get 4]))
      (Tree.Pm.run (D := C17.ExD) C17.ExS C17.exH 0 2 C17.exOps) = (15020, 4, C17.exGets) ∧
    (fun t : Tree.Pm Nat C17.ExD => [t.proof 0, t.proof 3, t.proof 4])
      (Tree.Pm.run (D := C17.ExD) C17.ExS C17.exH 0 2 C17.exOps) = C17.exPaths := by decide +kernel

/-- the common path is in the circuit's input format and opens the common root -/
theorem C17_paths_in_circuit_format (d : Nat) (hd : 0 < d) (ops : List (TreeOp α))
    (h : SimpleHistory ops) (i : Nat) (hi : i < 2 ^ d) :
    ∃ (leaf : α) (π : List (α × Nat)),
      (Tree.Full.run H dflt d ops).proof i = .ok π ∧
      (Tree.Optimal.run (M := M) H dflt d ops).proof i = .ok π ∧
      (Tree.Pm.run (D := D) S H dflt d ops).proof i = .ok π ∧
      (Tree.Full.run H dflt d ops).get i = .ok leaf ∧
      (Tree.Optimal.run (M := M) H dflt d ops).get i = .ok leaf ∧
      (Tree.Pm.run (D := D) S H dflt d ops).get i = .ok leaf ∧
      π.length = d ∧
      (∀ x ∈ π, x.2 = 0 ∨ x.2 = 1) ∧
      π.foldr (fun x acc => 2 * acc + x.2) 0 = i ∧
      Tree.Ideal.computeRoot H leaf π = (Tree.Full.run H dflt d ops).root ∧
      Tree.Ideal.computeRoot H leaf π = (Tree.Optimal.run (M := M) H dflt d ops).root ∧
      Tree.Ideal.computeRoot H leaf π = (Tree.Pm.run (D := D) S H dflt d ops).root := by
  obtain ⟨f1, _, f3, _, _, f6⟩ := Full.obs_eq H dflt _ _ (C06_full_refines H dflt d ops)
  obtain ⟨o1, _, o3, _, _, o6⟩ := Optimal.obs_eq M H dflt _ _ (C06_optimal_refines H dflt M d hd ops)
  obtain ⟨p1, _, p3, _, _, p6⟩ := Pm.obs_eq D H dflt _ _ (C06_pm_refines H dflt D S d hd ops h.pmCovered)
  have hi' : i < 2 ^ (Tree.Ideal.run dflt d ops).depth := by rw [Ideal.run_depth]; exact hi
  obtain ⟨fπ, fl, hlen, hdec, hbits, fr⟩ := Ideal.opening_of_obs H dflt _ hi' f1 (f3 i) (f6 i)
  obtain ⟨oπ, ol, -, -, -, or⟩ := Ideal.opening_of_obs H dflt _ hi' o1 (o3 i) (o6 i)
  obtain ⟨pπ, pl, -, -, -, pr⟩ := Ideal.opening_of_obs H dflt _ hi' p1 (p3 i) (p6 i)
  rw [Ideal.run_depth] at hlen
  exact ⟨_, _, fπ, oπ, pπ, fl, ol, pl, hlen, hbits, hdec, fr, or, pr⟩

example := C17_paths_in_circuit_format C17.exH 0 C17.ExM C17.ExD C17.ExS 2 (by decide)
  C17.exOps C17.exOps_simple 3 (by decide)
/-- index 3 = bits [1, 1]; the path of the persistent backend opens the flat backend's root -/
example : (Tree.Pm.run (D := C17.ExD) C17.ExS C17.exH 0 2 C17.exOps).proof 3 = .ok [(3, 1), (12, 1)] ∧
    Tree.Ideal.computeRoot C17.exH 6 [(3, 1), (12, 1)] = (Tree.Full.run C17.exH 0 2 C17.exOps).root ∧
    [(3, 1), (12, 1)].foldr (fun (x : Nat × Nat) acc => 2 * acc + x.2) 0 = 3 := by decide +kernel

end Zk
