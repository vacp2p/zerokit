import ZkProofs.C06Pm
/-!
# C15 on the persistent tree after a reopen: the open finding C15-pm-reopen-flags as theorems

The adapter's per-position flag vector (`cached_leaves_indices`) lives in memory only: `Pm.load`
(pmtree `MerkleTree::load` + adapter `PmTree::new`) recreates it as all zeros, while the leaves, the
root and the high-water mark come back from the store. After a reopen every position below the
high-water mark is therefore reported as empty. Kernel-checked at a concrete history (node type
`Nat`, a toy two-to-one function, default leaf `0`, association lists, depth 3), and from it the
negation of "for every history the reopened tree's empty-leaf list is the specification's"
(`C15_pm_empties` is that statement for the tree that was *not* reopened).
-/
namespace Zk

open Tree

def C15Pm.exH : Nat → Nat → Nat := fun a b => 1000 * a + b + 7
abbrev C15Pm.ExD := AList PmKey (PmVal Nat)
abbrev C15Pm.ExS := AList (Nat × Nat) Nat

/-- positions 1 and 2 written, position 0 never written -/
def C15Pm.ops : List (TreeOp Nat) := [.set 1 5, .set 2 6]

abbrev C15Pm.pm (d : Nat) (ops : List (TreeOp Nat)) : Tree.Pm Nat C15Pm.ExD :=
  Tree.Pm.run (D := C15Pm.ExD) C15Pm.ExS C15Pm.exH 0 d ops

/-- close and reopen: a new tree object loaded from the key–value content the history left behind -/
abbrev C15Pm.reopen (d : Nat) (ops : List (TreeOp Nat)) : Tree.Pm Nat C15Pm.ExD :=
  Tree.Pm.load C15Pm.exH 0 d { kv := (C15Pm.pm d ops).db.kv }

theorem C15Pm.ops_covered : Tree.PmCovered C15Pm.ops := by decide

/-- before the reopen the empty-leaf list is `[0]`, as in the specification; after the reopen the
    written positions 1 and 2 are reported as empty too -/
theorem C15_pm_reopen_loses_flags :
    (C15Pm.pm 3 C15Pm.ops).emptyIdx = [0] ∧
    (C15Pm.reopen 3 C15Pm.ops).emptyIdx = [0, 1, 2] ∧
    (Tree.Ideal.run 0 3 C15Pm.ops).emptyIdx = [0] := by
  decide +kernel

/-- everything else survives the reopen: depth, high-water mark, root and leaves -/
theorem C15_pm_reopen_keeps_leaves :
    (C15Pm.reopen 3 C15Pm.ops).depth = 3 ∧
    (C15Pm.reopen 3 C15Pm.ops).next = 3 ∧
    (C15Pm.reopen 3 C15Pm.ops).root = (C15Pm.pm 3 C15Pm.ops).root ∧
    (C15Pm.reopen 3 C15Pm.ops).root = (Tree.Ideal.run 0 3 C15Pm.ops).root C15Pm.exH 0 ∧
    (List.range 8).map (C15Pm.reopen 3 C15Pm.ops).get = [0, 5, 6, 0, 0, 0, 0, 0].map .ok ∧
    (List.range 8).map ((Tree.Ideal.run 0 3 C15Pm.ops).leaf 0) = [0, 5, 6, 0, 0, 0, 0, 0] := by
  decide +kernel

theorem C15Pm.reopen_empties_differ :
    (C15Pm.reopen 3 C15Pm.ops).emptyIdx ≠ (Tree.Ideal.run 0 3 C15Pm.ops).emptyIdx := by
  rw [C15_pm_reopen_loses_flags.2.1, C15_pm_reopen_loses_flags.2.2]
  decide

/-- "for every history (even restricted to the operations for which the backend refines the
    specification), the reopened tree's empty-leaf list is the specification's" is false -/
theorem C15_pm_reopen_statement_fails :
    ¬ (∀ d : Nat, 0 < d → ∀ ops : List (TreeOp Nat), Tree.PmCovered ops →
        (C15Pm.reopen d ops).emptyIdx = (Tree.Ideal.run 0 d ops).emptyIdx) := by
  intro hall
  exact C15Pm.reopen_empties_differ (hall 3 (by decide) C15Pm.ops C15Pm.ops_covered)

/-- … while the tree that was not reopened agrees with the specification on the same history
    (an instance of `C15_pm_empties`) -/
theorem C15_pm_no_reopen_agrees :
    (C15Pm.pm 3 C15Pm.ops).emptyIdx = (Tree.Ideal.run 0 3 C15Pm.ops).emptyIdx :=
  C15_pm_empties C15Pm.exH 0 C15Pm.ExD C15Pm.ExS 3 (by decide) C15Pm.ops C15Pm.ops_covered

/-- the reopened tree is not related to the specification state by `Pm.Rel` (its flag component
    fails), although the tree before the reopen is -/
theorem C15_pm_reopen_not_rel :
    ¬ Tree.Pm.Rel C15Pm.exH 0 (C15Pm.reopen 3 C15Pm.ops) (Tree.Ideal.run 0 3 C15Pm.ops) := by
  intro hrel
  obtain ⟨-, -, -, -, h, -⟩ := Pm.obs_eq C15Pm.ExD C15Pm.exH 0 _ _ hrel
  exact C15Pm.reopen_empties_differ h

end Zk
