import ZkProofs.Lemmas.QapProofs
/-!
# C18 / C01 — the snarkjs-compatible witness map (`rln/src/circuit/qap.rs:26-103`)

`ZkModel/Qap.lean` holds the model (the code's pipeline, ark-poly's domain transforms by their definition) and the specification
(the doc comment of `CircomReduction`: (A·B − C) at the odd points of the domain twice as large, written with Lagrange
interpolation).  The C18 stream `qap-witness-map-threads-{1,4}` runs the real function on generated constraint systems under 1
and 4 worker threads against both.  That the pipeline EQUALS the Lagrange form for every input is not a theorem here (it is
the orthogonality of the roots of unity; the two are compared by execution on every generated system); the theorems below are
about everything around the transforms: where the code can fail and what shape it returns.  The schedule-freeness of the
cell-by-cell fills (`cfg_iter_mut!`) is `C18_cellwise_fill_order_free` (ZkProofs/C18.lean).
-/
namespace Zk
open Zk.Qap

/-- model and specification fail on exactly the same inputs, in the same way -/
theorem C18_qap_outcomes_agree : QapOutcomeAgreeStmt := Qap.outcome_agree

/-- a returned vector has one entry per element of the evaluation domain -/
theorem C18_qap_length : QapLengthStmt := Qap.length_spec
/-- 3 constraints + 1 input → domain of 4 -/
example : (witnessMap [[(1, 0)], [(2, 1)], [(1, 1)]] [[(1, 1)], [(1, 0)], [(3, 0)]] 1 3 [1, 5]).map List.length = .ok 4 ∧
    (witnessMapSpec [[(1, 0)], [(2, 1)], [(1, 1)]] [[(1, 1)], [(1, 0)], [(3, 0)]] 1 3 [1, 5]).map List.length = .ok 4 := by
  decide +kernel
/-- on this system the transform pipeline and the Lagrange form give the same four values (a test, not the general claim) -/
example : witnessMap [[(1, 0)], [(2, 1)], [(1, 1)]] [[(1, 1)], [(1, 0)], [(3, 0)]] 1 3 [1, 5] =
    witnessMapSpec [[(1, 0)], [(2, 1)], [(1, 1)]] [[(1, 1)], [(1, 0)], [(3, 0)]] 1 3 [1, 5] := by
  rw [Qap.witnessMapSpec_eq]
  decide +kernel

/-- the only error is a domain that does not exist -/
theorem C18_qap_only_error_is_domain : QapErrStmt := Qap.err_spec

/-- row evaluation never errs and panics exactly on a term outside the assignment -/
theorem C18_qap_row_evaluation : QapRowStmt := Qap.row_spec
example : evalRow [1, 5] [(2, 1), (3, 2)] = .panic ∧ evalRow [1, 5] [(2, 1), (3, 0)] = .ok 13 := by decide +kernel

end Zk
