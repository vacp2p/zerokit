import ZkProofs.C06
/-!
# C07 — membership proofs: complete on every history, binding up to a hash collision

Completeness: after any history, for every position `i` of the tree the backend's `proof i`
succeeds with a path of one sibling per level whose direction bits decode to `i`, which recomputes
the tree's root from the leaf stored at `i`, and which the backend's own `verify` accepts.
Soundness is collision extraction on the shared recomputation (`computeRootFrom` of both backends is
`Ideal.computeRoot`): two different openings of one root with the same direction bits, or the same
opening with one direction bit flipped, exhibit a collision of `H`.
-/
namespace Zk

open Tree

variable {α : Type} [Inhabited α] (H : α → α → α) (dflt : α)

def C07.exH : Nat → Nat → Nat := fun a b => 1000 * a + b + 7
def C07.exOps : List (TreeOp Nat) := [.set 1 5, .set 9 1, .append 3, .set 0 8, .delete 0]
abbrev C07.ExM := AList (Nat × Nat) Nat

/-! ## completeness -/

theorem C07_full_proof_complete [BEq α] [LawfulBEq α] :
    ∀ (d : Nat) (ops : List (TreeOp α)) (i : Nat), i < 2 ^ d →
    ∃ π, (Tree.Full.run H dflt d ops).proof i = .ok π ∧
      (Tree.Full.run H dflt d ops).get i = .ok ((Tree.Ideal.run dflt d ops).leaf dflt i) ∧
      π.length = d ∧
      Tree.Full.leafIndex π = i ∧
      (∀ x ∈ π, x.2 = 0 ∨ x.2 = 1) ∧
      Tree.Full.computeRootFrom H ((Tree.Ideal.run dflt d ops).leaf dflt i) π
        = (Tree.Full.run H dflt d ops).root ∧
      Tree.Full.verify H (Tree.Full.run H dflt d ops) ((Tree.Ideal.run dflt d ops).leaf dflt i) π
        = .ok true := by
  intro d ops i hi
  have h := Full.proof_complete_of_rel H dflt (Full.run_rel H dflt d ops) i
    (by rw [Ideal.run_depth]; exact hi)
  rw [Ideal.run_depth] at h
  exact h

example := C07_full_proof_complete C07.exH 0 2 C07.exOps 2 (by decide)
example : (Tree.Full.run C07.exH 0 2 C07.exOps).proof 2 = .ok [(0, 0), (12, 1)] ∧
    (Tree.Full.run C07.exH 0 2 C07.exOps).get 2 = .ok 3 ∧
    Tree.Full.leafIndex [((0 : Nat), 0), (12, 1)] = 2 ∧
    Tree.Full.computeRootFrom C07.exH 3 [(0, 0), (12, 1)] = (Tree.Full.run C07.exH 0 2 C07.exOps).root ∧
    Tree.Full.verify C07.exH (Tree.Full.run C07.exH 0 2 C07.exOps) 3 [(0, 0), (12, 1)] = .ok true ∧
    Tree.Full.verify C07.exH (Tree.Full.run C07.exH 0 2 C07.exOps) 4 [(0, 0), (12, 1)] = .ok false := by
  decide

variable (M : Type) [MapLike M (Nat × Nat) α] [LawfulMapLike M (Nat × Nat) α]

theorem C07_optimal_proof_complete [BEq α] [LawfulBEq α] :
    ∀ d : Nat, 0 < d → ∀ (ops : List (TreeOp α)) (i : Nat), i < 2 ^ d →
    ∃ π, (Tree.Optimal.run (M := M) H dflt d ops).proof i = .ok π ∧
      (Tree.Optimal.run (M := M) H dflt d ops).get i = .ok ((Tree.Ideal.run dflt d ops).leaf dflt i) ∧
      π.length = d ∧
      Tree.Optimal.leafIndex π = i ∧
      (∀ x ∈ π, x.2 = 0 ∨ x.2 = 1) ∧
      Tree.Optimal.computeRootFrom H ((Tree.Ideal.run dflt d ops).leaf dflt i) π
        = (Tree.Optimal.run (M := M) H dflt d ops).root ∧
      Tree.Optimal.verify H (Tree.Optimal.run (M := M) H dflt d ops)
        ((Tree.Ideal.run dflt d ops).leaf dflt i) π = .ok true := by
  intro d hd ops i hi
  have h := Optimal.proof_complete_of_rel M H dflt (Optimal.run_rel M H dflt d hd ops) i
    (by rw [Ideal.run_depth]; exact hi)
  rw [Ideal.run_depth] at h
  exact h

example := C07_optimal_proof_complete C07.exH 0 C07.ExM 2 (by decide) C07.exOps 2 (by decide)
example : (Tree.Optimal.run (M := C07.ExM) C07.exH 0 2 C07.exOps).proof 2 = .ok [(0, 0), (12, 1)] ∧
    (Tree.Optimal.run (M := C07.ExM) C07.exH 0 2 C07.exOps).get 2 = .ok 3 ∧
    Tree.Optimal.leafIndex [((0 : Nat), 0), (12, 1)] = 2 ∧
    Tree.Optimal.verify C07.exH (Tree.Optimal.run (M := C07.ExM) C07.exH 0 2 C07.exOps) 3
      [(0, 0), (12, 1)] = .ok true ∧
    Tree.Optimal.verify C07.exH (Tree.Optimal.run (M := C07.ExM) C07.exH 0 2 C07.exOps) 3
      [(0, 0)] = .err := by
  decide

/-- the two in-memory backends produce the same path (siblings and direction bits) -/
theorem C07_paths_agree : ∀ d : Nat, 0 < d → ∀ (ops : List (TreeOp α)) (i : Nat),
    (Tree.Full.run H dflt d ops).proof i = (Tree.Optimal.run (M := M) H dflt d ops).proof i :=
  fun d hd ops => (C06_backends_agree H dflt M d hd ops).2.2.2.2.2

example := C07_paths_agree C07.exH 0 C07.ExM 2 (by decide) C07.exOps 1

omit [Inhabited α] in
/-- the recomputation of both backends is the specification's -/
theorem C07_computeRoot_agree : ∀ (lf : α) (π : List (α × Nat)),
    Tree.Full.computeRootFrom H lf π = Tree.Ideal.computeRoot H lf π ∧
    Tree.Optimal.computeRootFrom H lf π = Tree.Ideal.computeRoot H lf π :=
  fun lf π => ⟨Full.computeRootFrom_eq H lf π, Optimal.computeRootFrom_eq H lf π⟩

/-! ## soundness as collision extraction -/

/-- two different (leaf, siblings) with the same direction bits recomputing the same root exhibit a
    collision of `H` -/
theorem C07_binding : Tree.Ideal.BindingStmt H := Ideal.binding H

/-- the hypotheses are satisfiable: a non-injective `H` admits two openings of one root -/
example : ∃ a b c d : Nat, (a, b) ≠ (c, d) ∧ (fun x y : Nat => x + y) a b = (fun x y : Nat => x + y) c d :=
  C07_binding (fun x y : Nat => x + y) 1 2 [(2, 0)] [(1, 0)] (by decide) (by decide) (by decide)

/-- flipping one direction bit where running node and sibling differ, still recomputing the same
    root, exhibits a collision of `H` -/
theorem C07_dir_flip : Tree.Ideal.DirFlipStmt H := Ideal.dir_flip H

example : ∃ a b c d : Nat, (a, b) ≠ (c, d) ∧ (fun x y : Nat => x + y) a b = (fun x y : Nat => x + y) c d :=
  C07_dir_flip (fun x y : Nat => x + y) 1 [] [] 2 0 (Or.inl rfl) (by decide) (by decide)

end Zk
