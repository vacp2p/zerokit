import ZkProofs.Lemmas.TreeRunLemmas
/-!
# C15 — `get_empty_leaves_indices` on every history

The specification: the ascending list of the positions below the high-water mark `next` that were
never written or whose last operation was a removal. After every history both in-memory backends
report exactly this list.
-/
namespace Zk

open Tree

variable {α : Type} [Inhabited α] (H : α → α → α) (dflt : α)

def C15.exH : Nat → Nat → Nat := fun a b => 1000 * a + b + 7
/-- depth 3: 1 written, 9 rejected, 5 written (so `next = 6`), 1 removed, 7 not removable -/
def C15.exOps : List (TreeOp Nat) := [.set 1 5, .set 9 1, .set 5 2, .delete 1, .delete 7, .append 4]
abbrev C15.ExM := AList (Nat × Nat) Nat

theorem C15_full_empties : ∀ (d : Nat) (ops : List (TreeOp α)),
    (Tree.Full.run H dflt d ops).emptyIdx = (Tree.Ideal.run dflt d ops).emptyIdx := by
  intro d ops
  obtain ⟨-, -, -, -, hempty, -⟩ := Full.obs_eq H dflt _ _ (Full.run_rel H dflt d ops)
  exact hempty

example : (Tree.Full.run C15.exH 0 3 C15.exOps).emptyIdx = [0, 1, 2, 3, 4] ∧
    (Tree.Ideal.run 0 3 C15.exOps).emptyIdx = [0, 1, 2, 3, 4] ∧
    (Tree.Full.run C15.exH 0 3 C15.exOps).next = 7 := by decide

variable (M : Type) [MapLike M (Nat × Nat) α] [LawfulMapLike M (Nat × Nat) α]

theorem C15_optimal_empties : ∀ d : Nat, 0 < d → ∀ ops : List (TreeOp α),
    (Tree.Optimal.run (M := M) H dflt d ops).emptyIdx = (Tree.Ideal.run dflt d ops).emptyIdx := by
  intro d hd ops
  obtain ⟨-, -, -, -, hempty, -⟩ := Optimal.obs_eq M H dflt _ _ (Optimal.run_rel M H dflt d hd ops)
  exact hempty

example : (Tree.Optimal.run (M := C15.ExM) C15.exH 0 3 C15.exOps).emptyIdx = [0, 1, 2, 3, 4] := by decide

omit [Inhabited α] in
/-- what the specification's list is: below the high-water mark and not live -/
theorem C15_spec_characterisation : ∀ (s : Tree.Ideal α) (i : Nat),
    i ∈ s.emptyIdx ↔ i < s.next ∧ (s.live.lookup i).getD false = false :=
  fun s i => Ideal.mem_emptyIdx s i

omit [Inhabited α] in
/-- strictly ascending (in particular duplicate-free) -/
theorem C15_spec_sorted : ∀ s : Tree.Ideal α, s.emptyIdx.Pairwise (· < ·) :=
  fun s => Ideal.emptyIdx_sorted s

example : (5 : Nat) ∉ (Tree.Ideal.run 0 3 C15.exOps).emptyIdx ∧ 1 ∈ (Tree.Ideal.run 0 3 C15.exOps).emptyIdx ∧
    7 ∉ (Tree.Ideal.run 0 3 C15.exOps).emptyIdx := by decide

end Zk
