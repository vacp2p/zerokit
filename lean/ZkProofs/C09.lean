import ZkModel.Hashers
import ZkProofs.Lemmas.Grain
/-!
# C09 — Poseidon and hash-to-field conform to their specifications (property theorems)

The lemmas behind (i) and (iv) are in this file; the simulation behind (ii) is in `Lemmas/Grain.lean`.
-/
namespace Zk
open Poseidon

/-! ## (i) `Poseidon::hash` = the paper's three-phase permutation, for every parameter record and input -/

-- the implementation's `ark` / `mix_2` are the specification's AddRoundConstants / MDS mix by definition;
-- only the loop structure differs (`implStep`)
theorem ark_eq_addRC (pr : RoundParams) (st : List Nat) (r : Nat) :
    ark st pr.c (r * pr.t) = addRC pr r st := rfl

theorem mix2_eq_mix (pr : RoundParams) (st : List Nat) : mix2 st pr.m = mix pr st := rfl

theorem implStep (pr : RoundParams) (st : List Nat) (i : Nat) :
    mix2 (sbox pr.rf pr.rp (ark st pr.c (i * pr.t)) i) pr.m =
      if i < pr.rf / 2 ∨ i ≥ pr.rf / 2 + pr.rp then fullRound pr st i else partialRound pr st i := by
  unfold sbox
  split <;> rfl

theorem rounds_add (f : List Nat → Nat → List Nat) : ∀ (a b i : Nat) (st : List Nat),
    rounds f (a + b) i st = rounds f b (i + a) (rounds f a i st)
  | 0, b, i, st => by simp [rounds]
  | a+1, b, i, st => by
    rw [Nat.add_right_comm, rounds, rounds, rounds_add f a b, Nat.add_assoc, Nat.add_comm 1]

theorem rounds_congr {f g : List Nat → Nat → List Nat} : ∀ (n i : Nat) (st : List Nat),
    (∀ k st, i ≤ k → k < i + n → f st k = g st k) → rounds f n i st = rounds g n i st
  | 0, _, _, _ => rfl
  | n+1, i, st, h => by
    rw [rounds, rounds, h i st (Nat.le_refl _) (by omega)]
    exact rounds_congr n (i + 1) _ fun k st h1 h2 => h k st (by omega) (by omega)

theorem implLoop_eq_rounds (pr : RoundParams) : ∀ (n i : Nat) (st : List Nat),
    implLoop pr n i st = rounds (fun st i => mix2 (sbox pr.rf pr.rp (ark st pr.c (i * pr.t)) i) pr.m) n i st
  | 0, _, _ => rfl
  | n+1, i, st => by rw [implLoop, rounds, implLoop_eq_rounds pr n]

/-- **C09(i)**: for every parameter record and every input vector the implementation's single
loop computes the specification's three-phase permutation. -/
theorem poseidon_impl_eq_spec (pr : RoundParams) (inp : List Nat) :
    implHashWith pr inp = spec pr inp := by
  unfold implHashWith spec permSpec
  have hsplit : pr.rf + pr.rp = pr.rf / 2 + (pr.rp + (pr.rf - pr.rf / 2)) := by omega
  rw [implLoop_eq_rounds, hsplit, rounds_add, rounds_add,
    rounds_congr (g := fullRound pr) (pr.rf / 2) 0 _ fun k st _ h => by rw [implStep, if_pos (by omega)],
    rounds_congr (g := partialRound pr) pr.rp _ _ fun k st _ h => by rw [implStep, if_neg (by omega)],
    rounds_congr (g := fullRound pr) (pr.rf - pr.rf / 2) _ _ fun k st _ h => by rw [implStep, if_pos (by omega)]]
  simp

/-- `Poseidon::hash` with its parameter lookup: a non-empty input whose width `t = len + 1` has a record in the table
hashes to the specification's value. The empty input is `Err` there and a panic in `rln::hashers::poseidon_hash`
(the two theorems below). -/
theorem implHash_ok (table : List RoundParams) (inp : List Nat) (pr : RoundParams)
    (hne : inp ≠ []) (hfind : table.find? (fun pr => pr.t == inp.length + 1) = some pr) :
    implHash table inp = .ok (spec pr inp) := by
  simp [implHash, hfind, hne, poseidon_impl_eq_spec]

theorem implHash_empty (table : List RoundParams) : implHash table [] = .err := by
  unfold implHash; cases table.find? _ <;> simp

theorem rlnPoseidonHash_empty_panics (table : List RoundParams) :
    rlnPoseidonHash table [] = .panic := by
  unfold rlnPoseidonHash; rw [implHash_empty]

/-! ## (ii) constants: ring-buffer LFSR = shift-register LFSR -/

/-- **C09(ii)**: for every `(t, RF, RP, skip)` the round constants (rejection sampling) and the
Cauchy MDS matrix (mod-reduction sampling) derived by the ring-buffer LFSR of
`poseidon_constants.rs` are those derived by the shift register of the Poseidon reference script. -/
theorem grain_impl_eq_spec (t rf rp skip : Nat) :
    Poseidon.implParams t rf rp skip = Poseidon.specParams t rf rp skip :=
  Poseidon.grain_impl_eq_spec t rf rp skip

/-! ## (iii) the *generated* `ROUND_PARAMS` table is circomlib's for t = 2 … 9 -/

/-- **C09(iii)**: the table extracted from `rln/src/hashers.rs` on this run covers exactly the
widths 2…9 and each row is circomlib's `(t, 8, N_ROUNDS_P[t-2], 0)`. -/
theorem round_params_circomlib :
    Generated.roundParams = some ((List.range 8).filterMap (fun i => circomlibParams (i + 2))) := by
  decide

theorem round_params_rows (row : Nat × Nat × Nat × Nat) (tbl : List (Nat × Nat × Nat × Nat))
    (h : Generated.roundParams = some tbl) (hr : row ∈ tbl) :
    circomlibParams row.1 = some row ∧ 2 ≤ row.1 ∧ row.1 ≤ 9 := by
  rw [round_params_circomlib] at h
  injection h with h
  subst h
  revert row
  decide

/-! ## (iv) hash-to-field -/

theorem keccak256_length (bs : List UInt8) : (Keccak.keccak256 bs).length = 32 := by
  simp [Keccak.keccak256]

/-- **C09(iv)**: for every byte string, `hash_to_field` is the Keccak-256 digest read as a
little-endian integer and reduced modulo the field order; it is total (no panic branch reachable). -/
theorem hash_to_field_spec (bs : List UInt8) : hashToField bs = hashToFieldSpec bs := by
  simp [hashToField, hashToFieldSpec, bytesLeToFr, FR_BYTES, keccak256_length, List.take_of_length_le]

theorem hash_to_field_canonical (bs : List UInt8) : hashToField bs < P := by
  rw [hash_to_field_spec]; exact Nat.mod_lt _ P_pos

/-! ## Non-vacuity: the generated table is there and has eight rows -/

example : circomlibParams 3 = some (3, 8, 57, 0) := by decide
example : ∃ tbl, Generated.roundParams = some tbl ∧ tbl.length = 8 := ⟨_, round_params_circomlib, by decide⟩

end Zk
