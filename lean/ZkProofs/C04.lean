import ZkProofs.Lemmas.ProtoProofs
import ZkModel.Tree.Ideal
/-!
# C04 — the published proof values are the documented formulas

`proof_values_from_witness` returns `y = s + x·H(s,e,m)`, `nullifier = H(H(s,e,m))`, the root
recomputed from the rate commitment `H(H(s), limit)` along the path, and the inputs `x` and
`external_nullifier` unchanged (`specProofValues`), exactly when `message_id < user_message_limit`
and the path is at least as long as the index list; otherwise it is an error (range check) or the
out-of-bounds panic of `compute_tree_root` (open finding C12-path-length-panic). The published root
is the path fold of the tree specification (C07).
-/
namespace Zk
open Zk.Codec Zk.Protocol Zk.Public Zk.Proto

def C04.exH : List Nat → Nat := fun l => l.foldl (fun acc v => 1000 * acc + v + 7) 1 % 1000003
def C04.exW : Witness := { identitySecret := 5, userMessageLimit := 10, messageId := 2,
                           pathElements := [11, 12], identityPathIndex := [0, 1], x := 21,
                           externalNullifier := 9 }

theorem C04_proof_values_spec : ∀ (H : List Nat → Nat) (w : Witness), w.messageId < w.userMessageLimit →
    w.identityPathIndex.length ≤ w.pathElements.length →
    proofValuesFromWitness H w = .ok (specProofValues H w) :=
  proofValues_spec

example := C04_proof_values_spec C04.exH C04.exW (by decide) (by decide)
example : proofValuesFromWitness C04.exH C04.exW =
    .ok { y := (5 + 21 * C04.exH [5, 9, 2]) % P, nullifier := C04.exH [C04.exH [5, 9, 2]],
          root := C04.exH [12, C04.exH [C04.exH [C04.exH [5], 10], 11]], x := 21, externalNullifier := 9 } := by
  decide

theorem C04_proof_values_reject : ∀ (H : List Nat → Nat) (w : Witness),
    (w.messageId ≥ w.userMessageLimit → proofValuesFromWitness H w = .err) ∧
    (w.messageId < w.userMessageLimit → w.identityPathIndex.length > w.pathElements.length →
      proofValuesFromWitness H w = .panic) :=
  proofValues_reject

example : proofValuesFromWitness C04.exH { C04.exW with messageId := 10 } = .err ∧
    proofValuesFromWitness C04.exH { C04.exW with pathElements := [11] } = .panic := by decide

/-- the published root is `Ideal.computeRoot` (the recomputation of C07) from the rate commitment
    along the (sibling, direction) pairs; a direction byte other than 0 counts as 1 on both sides.
    (Holds for any two lists: both sides stop at the shorter one.) -/
theorem C04_root_is_ideal_path_fold : ∀ (H : List Nat → Nat) (leaf : Nat) (path : List Nat) (idx : List UInt8),
    idx.length ≤ path.length →
    specRoot H leaf path idx =
      Tree.Ideal.computeRoot (fun a b => H [a, b]) leaf (path.zip (idx.map (·.toNat))) :=
  fun H leaf path idx _ => specRoot_zip H leaf path idx

example : (specProofValues C04.exH C04.exW).root =
    Tree.Ideal.computeRoot (fun a b => C04.exH [a, b]) (C04.exH [C04.exH [5], 10]) [(11, 0), (12, 1)] :=
  C04_root_is_ideal_path_fold C04.exH _ [11, 12] [0, 1] (by decide)

end Zk
