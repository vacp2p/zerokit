import ZkModel.Generated.ProtoTables
import ZkModel.Graph.Storage
import ZkProofs.Lemmas.GraphLemmas
/-!
# C20 — the operator tables of the container are the ones the model uses (translator-fed)

`Generated/ProtoTables.lean` is rewritten from `proto.rs`, `storage.rs` and `graph.rs` on every run:
the numbering of the protobuf enums and the `From` tables between graph operators and protobuf
operators (constructor names on both sides). These theorems say: both directions map every operator
to the operator of the same name, list the enum completely and in order, and the numbering is the
one the model's conversions `Storage.opCode` / `opOfCode` use.
-/
namespace Zk
open Zk.Generated.Proto Zk.Graph Zk.Graph.Storage

def allOps : List Op :=
  [.Mul, .Div, .Add, .Sub, .Pow, .Idiv, .Mod, .Eq, .Neq, .Lt, .Gt, .Leq, .Geq, .Land, .Lor, .Shl, .Shr, .Bor, .Band, .Bxor]

def opName : Op → String
  | .Mul => "Mul" | .Div => "Div" | .Add => "Add" | .Sub => "Sub" | .Pow => "Pow" | .Idiv => "Idiv" | .Mod => "Mod"
  | .Eq => "Eq" | .Neq => "Neq" | .Lt => "Lt" | .Gt => "Gt" | .Leq => "Leq" | .Geq => "Geq" | .Land => "Land"
  | .Lor => "Lor" | .Shl => "Shl" | .Shr => "Shr" | .Bor => "Bor" | .Band => "Band" | .Bxor => "Bxor"

/-- the numbering in `proto.rs` is exactly the model's `opCode`, for every operator -/
theorem C20_enum_numbering :
    enumDuoOp = some (allOps.map (fun o => (opName o, opCode o))) ∧
    enumUnoOp = some [("Neg", 0), ("Id", 1)] ∧ enumTresOp = some [("TernCond", 0)] := by decide +kernel

theorem C20_opCode_inverse : (∀ o : Op, opOfCode (opCode o) = some o) ∧ allOps.length = 20 :=
  ⟨opOfCode_opCode, rfl⟩

/-- both `From` directions are the identity on names, complete and in enum order -/
theorem C20_operator_tables_identity :
    fromProtoDuo = some (allOps.map (fun o => (opName o, opName o))) ∧
    toProtoDuo = some (allOps.map (fun o => (opName o, opName o))) ∧
    fromProtoUno = some [("Neg", "Neg"), ("Id", "Id")] ∧ toProtoUno = some [("Neg", "Neg"), ("Id", "Id")] ∧
    fromProtoTres = some [("TernCond", "TernCond")] := by decide +kernel

end Zk
