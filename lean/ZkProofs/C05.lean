import ZkProofs.Lemmas.GraphProofs
/-!
# C05 — the bundled witness graph (evaluator half)

The graph bundled with zerokit (`graph.bin`, regenerated into `ZkModel/Generated/BundledGraph.lean`
on every run) is well formed, declares the seven named inputs on a 46-cell buffer, and the
evaluator returns on *every* assignment a complete witness of 5844 canonical values — no crash, no
dependence on the order in which the named inputs are supplied. That this witness is the reference
generator's (rln.wasm) is not a theorem: the check compares the complete witnesses by execution.
-/
namespace Zk

open Zk.Graph Zk.Generated.Bundled

theorem C05_bundled_graph_wellformed : BundledWfStmt := bundled_wf

/-- the generated data is not trivial: witness position 0 is node 957, which is `input 0`; witness
    position 3 is the last of the 23 414 nodes; chunk `c0` has 400 nodes and starts with a constant -/
example : nodes[signals[0]!]? = some (.input 0) ∧ signals[0]! = 957 ∧ signals[3]! = 23413 ∧
    c0.length = 400 ∧ c0[0]? = some (.montConstant 5433650512959517612316327474713065966758808864213826738576266661723522780033) :=
  ⟨bundled_wf.2.2.2.2.2.2.1, by decide +kernel⟩

theorem C05_evaluator_total_deterministic_order_independent : BundledTotalStmt := bundled_total

private def asg : List (String × List Nat) :=
  [("externalNullifier", [1]), ("identityPathIndex", List.replicate 20 1), ("identitySecret", [1]), ("messageId", [1]),
   ("pathElements", List.replicate 20 1), ("userMessageLimit", [1]), ("x", [1])]

/-- an assignment exists (all values 1, path vectors of twenty 1s), and so does a reordering of it -/
example : Assignment asg ∧ (("identityPathIndex", List.replicate 20 1) :: ("externalNullifier", [1]) :: asg.drop 2).Perm asg := by
  refine ⟨⟨List.Perm.refl _, ?_, ?_, ?_⟩, List.Perm.swap _ _ _⟩
  · decide
  · decide
  · decide +kernel

end Zk
