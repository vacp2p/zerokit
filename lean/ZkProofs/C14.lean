import ZkModel.Keygen
import ZkProofs.Lemmas.BytesLemmas
import ZkProofs.Lemmas.KeccakEval
import ZkProofs.Lemmas.ChaChaEval
/-!
# C14 — seeded identity generation (`rln/src/protocol.rs::seeded_keygen`, `extended_seeded_keygen`)

Properties of the model `ZkModel/Keygen.lean` (Keccak-256 → ChaCha20 → `Fr::rand` → Poseidon):
canonicity of every drawn element, the commitment relations of both identity shapes, the shared
first draw, the 32-byte encoding, the Montgomery constant, and the two reference vectors of
`rln/tests/protocol.rs` (evaluated by the kernel, Keccak stage included).
-/
namespace Zk
open Zk.Keygen

/-! ### Reference vectors (`rln/tests/protocol.rs`), evaluated by the kernel stage by stage -/

/-- Keccak-256 digest of the byte seed `[0..9]` -/
def refDigestBytes : List UInt8 :=
  [240, 174, 134, 166, 37, 126, 97, 91, 206, 139, 15, 231, 55, 148, 147, 77, 237, 160, 12, 19, 213, 143, 128, 180,
    102, 169, 53, 78, 48, 108, 158, 176]

/-- Keccak-256 digest of the UTF-8 bytes of `"A seed phrase example"` -/
def refDigestPhrase : List UInt8 :=
  [124, 2, 231, 112, 74, 134, 96, 61, 110, 108, 195, 169, 12, 66, 241, 217, 185, 217, 64, 32, 145, 242, 184, 29,
    150, 150, 68, 50, 246, 126, 202, 74]

/-- Keccak stage, byte seed; the permutation is evaluated in its list form (`Keccak.f1600_eq`) -/
theorem C14_reference_digest_bytes : Keccak.keccak256 [0,1,2,3,4,5,6,7,8,9] = refDigestBytes := by
  unfold Keccak.keccak256 Keccak.absorbBlock
  simp only [Keccak.f1600_eq]
  decide +kernel

theorem C14_reference_digest_phrase :
    Keccak.keccak256 "A seed phrase example".toUTF8.toList = refDigestPhrase := by
  unfold Keccak.keccak256 Keccak.absorbBlock
  simp only [Keccak.f1600_eq]
  decide +kernel

/-! `frRand` asks `u64At` for four consecutive `u64`s, and every `u64At` runs the ChaCha block function again. The
reference draws are therefore read off the blocks of the two key streams, each evaluated once, its ten double rounds in
their list form (`ChaCha.iter_doubleRound`). -/

def word64 (blk : Array UInt32) (j : Nat) : Nat := (blk[2 * j]!).toNat + (blk[2 * j + 1]!).toNat * 2 ^ 32

theorem u64At_eq (key : Array UInt32) (k : Nat) :
    ChaCha.u64At key k = word64 (ChaCha.block key (k / 8)) (k % 8) := by
  show (ChaCha.block key (2 * k / 16))[2 * k % 16]!.toNat +
    (ChaCha.block key (2 * k / 16))[2 * k % 16 + 1]!.toNat * 2 ^ 32 = _
  rw [show 2 * k / 16 = k / 8 by omega, show 2 * k % 16 = 2 * (k % 8) by omega]
  rfl

/-- the candidate `Fr::rand` assembles from the `u64`s `j … j+3` of a block -/
def candidate (blk : Array UInt32) (j : Nat) : Nat :=
  word64 blk j + word64 blk (j + 1) * 2 ^ 64 + word64 blk (j + 2) * 2 ^ 128 + word64 blk (j + 3) % 2 ^ 62 * 2 ^ 192

/-- one round of `Fr::rand` at the `u64`s `j … j+3` of block `c` (`j ≤ 4`: the four lie in one block) -/
theorem frRand_succ {key blk : Array UInt32} {c : Nat} (hb : ChaCha.block key c = blk) (j : Nat) (hj : j ≤ 4)
    (fuel : Nat) :
    frRand key (fuel + 1) (8 * c + j) =
      if candidate blk j < P then some (candidate blk j * rInv % P, 8 * c + j + 4)
      else frRand key fuel (8 * c + j + 4) := by
  have e : ∀ i, i ≤ 3 → ChaCha.u64At key (8 * c + j + i) = word64 blk (j + i) := by
    intro i hi
    rw [u64At_eq, show (8 * c + j + i) / 8 = c by omega, show (8 * c + j + i) % 8 = j + i by omega, hb]
  rw [frRand]
  simp only [e 1 (by omega), e 2 (by omega), e 3 (by omega), show ChaCha.u64At key (8 * c + j) = _ from e 0 (by omega)]
  rfl

theorem refBytes_block0 : ChaCha.block (ChaCha.keyOfSeed refDigestBytes) 0 =
    #[603907797, 4281640459, 2888417004, 2191653244, 3963152285, 2698537184, 4232023470, 1386758159, 301026245,
      3446229209, 651244240, 2491793629, 2864719459, 4184639932, 2603778803, 2971917856] := by
  simp only [ChaCha.block, ChaCha.iter_doubleRound]
  decide +kernel

theorem refBytes_block1 : ChaCha.block (ChaCha.keyOfSeed refDigestBytes) 1 =
    #[2720398777, 3113764217, 3436788189, 1769167816, 3494675232, 1325264860, 2191961024, 1138012869, 153668908,
      3457403410, 4113183619, 4241993819, 2447950824, 2874282864, 3679973968, 824421562] := by
  simp only [ChaCha.block, ChaCha.iter_doubleRound]
  decide +kernel

theorem refPhrase_block0 : ChaCha.block (ChaCha.keyOfSeed refDigestPhrase) 0 =
    #[3672702285, 1603091679, 88448419, 24613021, 2228036762, 589218617, 2655874446, 216871447, 3496920002,
      2508750550, 4191670421, 3936682670, 2711067783, 3065315784, 166615433, 1309132298] := by
  simp only [ChaCha.block, ChaCha.iter_doubleRound]
  decide +kernel

/-- ChaCha20 / `Fr::rand` stage on the first digest: first draw, with the stream position -/
theorem C14_reference_seed_bytes_from_digest :
    frRand (ChaCha.keyOfSeed refDigestBytes) FUEL 0 =
      some (0x766ce6c7e7a01bdf5b3f257616f603918c30946fa23480f2859c597817e6716, 4) :=
  (frRand_succ refBytes_block0 0 (by decide) 63).trans (by decide +kernel)

/-- second draw of the same stream (the nullifier of the extended identity); one candidate is
    rejected on the way, so the stream position advances by 8 -/
theorem C14_reference_second_draw_from_digest :
    frRand (ChaCha.keyOfSeed refDigestBytes) FUEL 4 =
      some (0x1f18714c7bc83b5bca9e89d404cf6f2f585bc4c0f7ed8b53742b7e2b298f50b4, 12) :=
  ((frRand_succ refBytes_block0 4 (by decide) 63).trans (if_neg (by decide +kernel))).trans
    ((frRand_succ refBytes_block1 0 (by decide) 62).trans (by decide +kernel))

theorem C14_reference_seed_phrase_from_digest :
    frRand (ChaCha.keyOfSeed refDigestPhrase) FUEL 0 =
      some (0x20df38f3f00496f19fe7c6535492543b21798ed7cb91aebe4af8012db884eda3, 4) :=
  (frRand_succ refPhrase_block0 0 (by decide) 63).trans (by decide +kernel)

/-- the two documented reference seeds (rln/tests/protocol.rs) give the documented secrets -/
theorem C14_reference_seed_bytes :
    (frRand (ChaCha.keyOfSeed (Keccak.keccak256 [0,1,2,3,4,5,6,7,8,9])) FUEL 0).map (·.1) =
      some 0x766ce6c7e7a01bdf5b3f257616f603918c30946fa23480f2859c597817e6716 := by
  rw [C14_reference_digest_bytes, C14_reference_seed_bytes_from_digest]
  rfl

theorem C14_reference_seed_phrase :
    (frRand (ChaCha.keyOfSeed (Keccak.keccak256 "A seed phrase example".toUTF8.toList)) FUEL 0).map (·.1) =
      some 0x20df38f3f00496f19fe7c6535492543b21798ed7cb91aebe4af8012db884eda3 := by
  rw [C14_reference_digest_phrase, C14_reference_seed_phrase_from_digest]
  rfl

/-! ### `Fr::rand` -/

/-- every value produced by `Fr::rand` is a canonical field element, and the stream index advances -/
theorem C14_frRand_canonical (key : Array UInt32) (fuel k v k' : Nat) :
    frRand key fuel k = some (v, k') → v < P ∧ k < k' ∧ (k' - k) % 4 = 0 := by
  induction fuel generalizing k with
  | zero => nofun
  | succ fuel ih =>
    intro h
    rw [frRand] at h
    split at h
    · simp only [Option.some.injEq, Prod.mk.injEq] at h
      obtain ⟨rfl, rfl⟩ := h
      exact ⟨Nat.mod_lt _ P_pos, by omega, by omega⟩
    · have := ih (k + 4) h
      omega

/-- non-vacuity: the hypothesis holds for the reference stream, without and with a rejection -/
example : 0x766ce6c7e7a01bdf5b3f257616f603918c30946fa23480f2859c597817e6716 < P ∧ 0 < 4 ∧ (4 - 0) % 4 = 0 :=
  C14_frRand_canonical _ _ _ _ _ C14_reference_seed_bytes_from_digest
example : 0x1f18714c7bc83b5bca9e89d404cf6f2f585bc4c0f7ed8b53742b7e2b298f50b4 < P ∧ 4 < 12 ∧ (12 - 4) % 4 = 0 :=
  C14_frRand_canonical _ _ _ _ _ C14_reference_second_draw_from_digest

/-! ### The two key generators in closed form

Trap: unfolding `seededKeygen H seed` where it stands (`unfold`, `simp only [seededKeygen]`, `delta`) makes the kernel
check `seededKeygen H seed ≡ body`. The body is a `match`, the kernel unfolds a matcher before an ordinary definition, and
to reduce this one it evaluates the discriminant `frRand key FUEL 0`: ChaCha on a key of symbolic words, which does not
come back. The same happens at any later step that alters the body by a definitional equality. So the case analysis is
done on `seededGen`, the same body with the sampler as a parameter (the matcher is named because a `match` written here
would get one of its own), and `seededKeygen = seededGen frRand` is checked unapplied: between two functions the kernel
can only unfold both, and it finds the same `fun`. Likewise for the extended generator. -/

private abbrev Sampler := Array UInt32 → Nat → Nat → Option (Nat × Nat)

private def seededGen (frR : Sampler) (H : List Nat → Nat) (seed : List UInt8) : Option (Nat × Nat) :=
  have key : Array UInt32 := ChaCha.keyOfSeed (Keccak.keccak256 seed)
  seededKeygen.match_1 (fun _ => Option (Nat × Nat)) (frR key FUEL 0)
    (fun s _ => some (s, H [s])) fun _ => none

private def extendedGen (frR : Sampler) (H : List Nat → Nat) (seed : List UInt8) :
    Option (Nat × Nat × Nat × Nat) :=
  have key : Array UInt32 := ChaCha.keyOfSeed (Keccak.keccak256 seed)
  extendedSeededKeygen.match_1 (fun _ => Option (Nat × Nat × Nat × Nat)) (frR key FUEL 0) (fun _ => none)
    fun t k =>
      extendedSeededKeygen.match_1 (fun _ => Option (Nat × Nat × Nat × Nat)) (frR key FUEL k) (fun _ => none)
        fun n _ =>
          have s : Nat := H [t, n]
          some (t, n, s, H [s])

private theorem seededGen_eq (f : Sampler) (H : List Nat → Nat) (seed : List UInt8) :
    seededGen f H seed =
      (f (ChaCha.keyOfSeed (Keccak.keccak256 seed)) FUEL 0).map fun p => (p.1, H [p.1]) := by
  unfold seededGen
  dsimp only
  cases f (ChaCha.keyOfSeed (Keccak.keccak256 seed)) FUEL 0 <;> rfl

private theorem extendedGen_eq (f : Sampler) (H : List Nat → Nat) (seed : List UInt8) :
    extendedGen f H seed =
      (f (ChaCha.keyOfSeed (Keccak.keccak256 seed)) FUEL 0).bind fun p =>
        (f (ChaCha.keyOfSeed (Keccak.keccak256 seed)) FUEL p.2).map fun q =>
          (p.1, q.1, H [p.1, q.1], H [H [p.1, q.1]]) := by
  unfold extendedGen
  dsimp only
  generalize ChaCha.keyOfSeed (Keccak.keccak256 seed) = key
  cases f key FUEL 0 with
  | none => rfl
  | some p =>
    dsimp only [Option.bind]
    cases f key FUEL p.2 <;> rfl

private theorem seededKeygen_eq (H : List Nat → Nat) (seed : List UInt8) :
    seededKeygen H seed =
      (frRand (ChaCha.keyOfSeed (Keccak.keccak256 seed)) FUEL 0).map fun p => (p.1, H [p.1]) := by
  have unapplied : seededKeygen = seededGen frRand := rfl
  rw [unapplied, seededGen_eq]

private theorem extendedSeededKeygen_eq (H : List Nat → Nat) (seed : List UInt8) :
    extendedSeededKeygen H seed =
      (frRand (ChaCha.keyOfSeed (Keccak.keccak256 seed)) FUEL 0).bind fun p =>
        (frRand (ChaCha.keyOfSeed (Keccak.keccak256 seed)) FUEL p.2).map fun q =>
          (p.1, q.1, H [p.1, q.1], H [H [p.1, q.1]]) := by
  have unapplied : extendedSeededKeygen = extendedGen frRand := rfl
  rw [unapplied, extendedGen_eq]

/-! ### Identities -/

/-- seeded identities satisfy the commitment relation on canonical elements -/
theorem C14_seeded_identity_valid (H : List Nat → Nat) (seed : List UInt8) (s c : Nat) :
    seededKeygen H seed = some (s, c) → ValidIdentity H s c := by
  rw [seededKeygen_eq]
  intro h
  obtain ⟨⟨s', k⟩, hr, he⟩ := Option.map_eq_some_iff.mp h
  cases he
  exact ⟨(C14_frRand_canonical _ _ _ _ _ hr).1, rfl⟩

private theorem seeded_ref (H : List Nat → Nat) :
    seededKeygen H [0,1,2,3,4,5,6,7,8,9] =
      some (0x766ce6c7e7a01bdf5b3f257616f603918c30946fa23480f2859c597817e6716,
            H [0x766ce6c7e7a01bdf5b3f257616f603918c30946fa23480f2859c597817e6716]) := by
  rw [seededKeygen_eq, C14_reference_digest_bytes, C14_reference_seed_bytes_from_digest]
  rfl

/-- non-vacuity: the hypothesis is satisfiable (reference seed, arbitrary hash) -/
example (H : List Nat → Nat) :
    ValidIdentity H 0x766ce6c7e7a01bdf5b3f257616f603918c30946fa23480f2859c597817e6716
      (H [0x766ce6c7e7a01bdf5b3f257616f603918c30946fa23480f2859c597817e6716]) :=
  C14_seeded_identity_valid H _ _ _ (seeded_ref H)

theorem C14_extended_seeded_identity_valid (H : List Nat → Nat) (seed : List UInt8) (t n s c : Nat) :
    extendedSeededKeygen H seed = some (t, n, s, c) → ValidExtendedIdentity H t n s c := by
  rw [extendedSeededKeygen_eq]
  intro h
  obtain ⟨⟨t', k⟩, hr, h⟩ := Option.bind_eq_some_iff.mp h
  obtain ⟨⟨n', k'⟩, hr', he⟩ := Option.map_eq_some_iff.mp h
  cases he
  exact ⟨(C14_frRand_canonical _ _ _ _ _ hr).1, (C14_frRand_canonical _ _ _ _ _ hr').1, rfl, rfl⟩

private theorem extended_ref (H : List Nat → Nat) :
    extendedSeededKeygen H [0,1,2,3,4,5,6,7,8,9] =
      some (0x766ce6c7e7a01bdf5b3f257616f603918c30946fa23480f2859c597817e6716,
            0x1f18714c7bc83b5bca9e89d404cf6f2f585bc4c0f7ed8b53742b7e2b298f50b4,
            H [0x766ce6c7e7a01bdf5b3f257616f603918c30946fa23480f2859c597817e6716,
               0x1f18714c7bc83b5bca9e89d404cf6f2f585bc4c0f7ed8b53742b7e2b298f50b4],
            H [H [0x766ce6c7e7a01bdf5b3f257616f603918c30946fa23480f2859c597817e6716,
                  0x1f18714c7bc83b5bca9e89d404cf6f2f585bc4c0f7ed8b53742b7e2b298f50b4]]) := by
  rw [extendedSeededKeygen_eq, C14_reference_digest_bytes, C14_reference_seed_bytes_from_digest,
    Option.bind_some]
  dsimp only
  rw [C14_reference_second_draw_from_digest]
  rfl

/-- non-vacuity: the reference seed gives an extended identity (trapdoor, nullifier as in
    `rln/tests/protocol.rs`), for every hash -/
example (H : List Nat → Nat) :
    ValidExtendedIdentity H 0x766ce6c7e7a01bdf5b3f257616f603918c30946fa23480f2859c597817e6716
      0x1f18714c7bc83b5bca9e89d404cf6f2f585bc4c0f7ed8b53742b7e2b298f50b4
      (H [0x766ce6c7e7a01bdf5b3f257616f603918c30946fa23480f2859c597817e6716,
          0x1f18714c7bc83b5bca9e89d404cf6f2f585bc4c0f7ed8b53742b7e2b298f50b4])
      (H [H [0x766ce6c7e7a01bdf5b3f257616f603918c30946fa23480f2859c597817e6716,
             0x1f18714c7bc83b5bca9e89d404cf6f2f585bc4c0f7ed8b53742b7e2b298f50b4]]) :=
  C14_extended_seeded_identity_valid H _ _ _ _ _ (extended_ref H)

/-- the extended identity's trapdoor is the plain seeded identity's secret (same stream prefix) -/
theorem C14_extended_shares_first_draw (H : List Nat → Nat) (seed : List UInt8) (t n s c s' c' : Nat) :
    extendedSeededKeygen H seed = some (t, n, s, c) → seededKeygen H seed = some (s', c') → t = s' := by
  rw [extendedSeededKeygen_eq, seededKeygen_eq]
  intro h h'
  obtain ⟨⟨t', k⟩, hr, h⟩ := Option.bind_eq_some_iff.mp h
  obtain ⟨⟨n', k'⟩, -, he⟩ := Option.map_eq_some_iff.mp h
  obtain ⟨⟨s'', k2⟩, hr2, he2⟩ := Option.map_eq_some_iff.mp h'
  cases he
  cases he2
  exact congrArg Prod.fst (Option.some.inj (hr.symm.trans hr2))

/-- non-vacuity: both hypotheses hold together on the reference seed -/
example (H : List Nat → Nat) :
    (0x766ce6c7e7a01bdf5b3f257616f603918c30946fa23480f2859c597817e6716 : Nat) =
      0x766ce6c7e7a01bdf5b3f257616f603918c30946fa23480f2859c597817e6716 :=
  C14_extended_shares_first_draw H _ _ _ _ _ _ _ (extended_ref H) (seeded_ref H)

/-! ### Encoding and the Montgomery constant -/

/-- canonical components encode to 32 bytes that decode back (one encoding per identity) -/
theorem C14_identity_encoding (v : Nat) (hv : v < P) : (natLE 32 v).length = 32 ∧ leNat (natLE 32 v) = v :=
  ⟨natLE_length 32 v, leNat_natLE 32 v (Nat.lt_trans hv P_lt)⟩

/-- non-vacuity: the reference secret round-trips; a bound is needed (`2^256 + 1` does not) -/
example : leNat (natLE 32 0x766ce6c7e7a01bdf5b3f257616f603918c30946fa23480f2859c597817e6716) =
    0x766ce6c7e7a01bdf5b3f257616f603918c30946fa23480f2859c597817e6716 :=
  (C14_identity_encoding _ (C14_frRand_canonical _ _ _ _ _ C14_reference_seed_bytes_from_digest).1).2
example : leNat (natLE 32 (2 ^ 256 + 1)) ≠ 2 ^ 256 + 1 := by decide +kernel

/-- Montgomery radix inverse is what it claims to be -/
theorem C14_rInv_spec : (2 ^ 256 % P) * rInv % P = 1 := by decide +kernel

end Zk
