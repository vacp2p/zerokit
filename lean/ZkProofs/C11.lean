import ZkModel.Generated.FfiTable
import ZkModel.Basic
/-!
# C11 — the C FFI is the Rust API, argument for argument

`Generated/FfiTable.lean` is rewritten from `rln/src/ffi.rs` on every run: one row per
`extern "C"` function with the macro it expands, the `RLN` method it calls, the arguments it hands
over (in order), the output / verdict pointer and the C parameter list. The theorems say that every
function forwards exactly its own parameters, in API order, to the method of the same name (with
the three exceptions of `expectedMethod`), and the model of the macros says what is reported.
-/
namespace Zk
open Zk.Generated.Ffi

/-- `seq_atomic_operation` wraps `atomic_operation`; `public::hash` and `public::poseidon_hash` are imported into
    ffi.rs as `public_hash` and `public_poseidon_hash` -/
def expectedMethod (name : String) : String :=
  if name = "seq_atomic_operation" then "atomic_operation"
  else if name = "hash" then "public_hash"
  else if name = "poseidon_hash" then "public_poseidon_hash"
  else name

/-- the arguments the method must receive: the C parameters without the context and without the
    output pointer, in the same order; the sequential batch starts at the current leaf count -/
def expectedArgs (r : Row) : List String :=
  let ins := r.params.filter (fun p => p ≠ "ctx" ∧ p ≠ r.out)
  if r.name = "seq_atomic_operation" then "ctx.process().leaves_set()" :: ins else ins

def rowOk (r : Row) : Bool :=
  decide (r.method = expectedMethod r.name) &&
  (r.kind == "constructor" || decide (r.args = expectedArgs r)) &&
  (r.out == "" || r.kind == "constructor" || decide (r.params.getLast? = some r.out))

theorem C11_every_function_forwards_its_own_arguments :
    ∃ t, table = some t ∧ t.all rowOk = true := ⟨_, rfl, by decide +kernel⟩

/-- the C surface, pinned here: a function added to or removed from ffi.rs changes the generated table and fails
    `C11_exported_functions` -/
def exportedNames : List String :=
  ["new", "new_with_params", "set_tree", "delete_leaf", "set_leaf", "get_leaf", "leaves_set", "set_next_leaf",
   "set_leaves_from", "init_tree_with_leaves", "atomic_operation", "seq_atomic_operation", "get_root", "get_proof",
   "prove", "verify", "generate_rln_proof", "generate_rln_proof_with_witness", "verify_rln_proof", "verify_with_roots",
   "key_gen", "seeded_key_gen", "extended_key_gen", "seeded_extended_key_gen", "recover_id_secret", "set_metadata",
   "get_metadata", "flush", "hash", "poseidon_hash"]

/-- every documented function is exported exactly once and nothing else is (the order in the file is free) -/
theorem C11_exported_functions :
    ∃ t, table = some t ∧ (t.map (·.name)).length = exportedNames.length ∧
      (∀ n ∈ exportedNames, n ∈ t.map (·.name)) ∧ (∀ n ∈ t.map (·.name), n ∈ exportedNames) :=
  have hp : ((table.getD []).map (·.name)).Perm exportedNames := by decide +kernel
  ⟨_, rfl, hp.length_eq, fun _ hn => hp.mem_iff.2 hn, fun _ hn => hp.mem_iff.1 hn⟩

/-- each wrapper is one of the four macros, a constructor, the direct accessor, or a hand-written body of the recognised
    straight-line shape (`manual`: one call on the context with the function's own parameters — see tools/extract.py);
    the verification entry points, whose verdict travels through a pointer, are not hand-written -/
theorem C11_kinds_known :
    ∃ t, table = some t ∧
      t.all (fun r => r.kind ∈ ["constructor", "call", "call_with_output_arg", "call_with_bool_arg",
                                "no_ctx_call_with_output_arg", "direct", "manual"]) = true ∧
      t.all (fun r => !(r.name ∈ ["verify", "verify_rln_proof", "verify_with_roots"]) || r.kind == "call_with_bool_arg") = true :=
  ⟨_, rfl, by decide +kernel, by decide +kernel⟩

/-- the sequential batch wrapper starts at the current leaf count -/
theorem C11_seq_batch_starts_at_leaf_count :
    ∃ t, table = some t ∧ ∃ r ∈ t, r.name = "seq_atomic_operation" ∧ r.method = "atomic_operation" ∧
      r.args = ["ctx.process().leaves_set()", "leaves_buffer", "indices_buffer"] :=
  ⟨_, rfl, by decide +kernel⟩

/-! ## what the macros report (model of `call!`, `call_with_output_arg!`, `call_with_bool_arg!`;
`no_ctx_call_with_output_arg!` reports as `call_with_output_arg!`) -/

/-- result of an API method as seen by a macro: `Ok(v)` or `Err` (a panic aborts the process: C12/C13) -/
inductive Api (α : Type) | ok (v : α) | err

/-- what the C caller observes: the success flag and, when set, the output -/
structure Seen (α : Type) where
  flag : Bool
  out : Option α
deriving DecidableEq

def callMacro : Api Unit → Seen Unit
  | .ok _ => ⟨true, none⟩
  | .err => ⟨false, none⟩

def outputMacro : Api (List UInt8) → Seen (List UInt8)
  | .ok bytes => ⟨true, some bytes⟩       -- `*output = Buffer::from(&output_data[..])`, the vector is leaked to the caller
  | .err => ⟨false, none⟩                 -- the output pointer is not written

def boolMacro : Api Bool → Seen Bool
  | .ok v => ⟨true, some v⟩
  | .err => ⟨false, none⟩

/-- success is reported exactly when the API returned `Ok`, and then the output is exactly what the API wrote -/
theorem C11_flag_iff_ok (r : Api (List UInt8)) :
    ((outputMacro r).flag = true ↔ ∃ b, r = .ok b) ∧ (∀ b, r = .ok b → (outputMacro r).out = some b) ∧
    ((outputMacro r).flag = false → (outputMacro r).out = none) := by
  cases r <;> simp [outputMacro]

theorem C11_verdict_iff_ok (r : Api Bool) :
    ((boolMacro r).flag = true ↔ ∃ v, r = .ok v) ∧ (∀ v, r = .ok v → (boolMacro r).out = some v) := by
  cases r <;> simp [boolMacro]

theorem C11_call_flag_iff_ok (r : Api Unit) : (callMacro r).flag = true ↔ r = .ok () := by
  cases r <;> simp [callMacro]

end Zk
