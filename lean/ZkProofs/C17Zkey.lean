import ZkProofs.Lemmas.ZkeyProofs
/-!
# C17 / C01 — the snarkjs key-file reader (`rln/src/circuit/zkey.rs`, anchor `:56 read_zkey`)

The model (`ZkModel/Zkey.lean`) is tied to the code by the C17 correspondence stream `zkey-reader`: the bundled
`rln_final.zkey` (3.4 MB) read natively by the Lean driver and by `read_zkey` — through a `Cursor`, a `BufReader<File>` and
readers that hand out a few bytes per `read()` — with the digest of every point of the proving key (raw Montgomery limbs, in
reading order) and of both constraint matrices compared, the key the build actually loaded compared with the same digest, and
generated key files with every kind of deviation in `lib/zkeygen.py` (outcome `ok digest | err | panic`).  The theorems are
about the model, for every byte string / record list.  What the property itself asks of the two BUNDLED files (zkey =
arkzkey) is decided by running `==` on the loaded values in the arkzkey build (checks/c17.py); these theorems say what
`read_zkey` computes from ANY file, which is what makes "the matrices of the snarkjs file" a defined notion.
-/
namespace Zk
open Zk.Zkey

/-- the model's cursor is a `Cursor<&[u8]>` -/
theorem C17_zkey_cursor_reads : CursorReadStmt := Zkey.cursor_read
example : (Cur.at [1, 2, 3, 4, 5] 1).read 3 = .ok ([2, 3, 4], Cur.at [1, 2, 3, 4, 5] 4) ∧
    (Cur.at [1, 2, 3] 2).read 2 = .err ∧ (Cur.at [1, 2, 3] 7).read 1 = .err := by decide +kernel
/-- without `0 < n` the error clause is false: a read of zero bytes succeeds at any position, beyond the end too -/
theorem C17_zkey_cursor_original_statement_false : ¬ CursorReadStmtOriginal := Zkey.cursor_read_false

/-- the first section with an id is the one that counts -/
theorem C17_zkey_first_section_wins : SectionFirstWinsStmt := Zkey.section_first_wins
example : getSection [⟨1, 12, 4⟩, ⟨4, 40, 8⟩, ⟨2, 60, 9⟩, ⟨4, 90, 8⟩] 4 = .ok ⟨4, 40, 8⟩ := by decide +kernel

/-- a missing section is a panic, not an error -/
theorem C17_zkey_missing_section_panics : SectionMissingStmt := Zkey.section_missing
example : getSection [⟨1, 12, 4⟩, ⟨2, 60, 9⟩] 4 = .panic := by decide +kernel

/-- files that list the same sections in another order are read alike -/
theorem C17_zkey_section_order_irrelevant : SectionOrderIrrelevantStmt := Zkey.section_order_irrelevant
example : getSection [⟨2, 60, 9⟩, ⟨4, 40, 8⟩] 4 = getSection [⟨4, 40, 8⟩, ⟨2, 60, 9⟩] 4 := by decide +kernel

/-- the record loop: row `r` of matrix `m` is exactly the file's records addressed to it, in file order, values divided
    by R²; a record outside the two matrices or the domain is a panic; never an error -/
theorem C17_zkey_matrix_rows : PushAllSpecStmt := Zkey.pushAll_spec
/-- two records for row 1 of A, one for row 0 of B (domain 2) -/
example : pushAll [⟨0, 1, 7, 0⟩, ⟨1, 0, 3, 0⟩, ⟨0, 1, 2, 0⟩] (Array.replicate 2 [], Array.replicate 2 []) =
    .ok (#[[], [(0, 7), (0, 2)]], #[[(0, 3)], []]) := by decide +kernel
example : pushAll [⟨0, 2, 7, 0⟩] (Array.replicate 2 [], Array.replicate 2 []) = .panic ∧
    pushAll [⟨2, 0, 7, 0⟩] (Array.replicate 2 [], Array.replicate 2 []) = .panic := by decide +kernel

/-- stored coefficients are in doubly-Montgomery form: decoded value · R · R = stored value (mod p) -/
theorem C17_zkey_coefficient_value : CoefValueStmt := Zkey.coef_value
theorem C17_zkey_coefficient_canonical : CoefValueCanonicalStmt := Zkey.coef_value_canonical
/-- the stored number `R² mod p` stands for 1 -/
example : coefValue ((2 ^ 256 % P) * (2 ^ 256 % P) % P) = 1 := by decide +kernel

/-- `matrices()`: without wrap-around the result keeps `max constraint index - n_public` rows, each the file's row -/
theorem C17_zkey_matrices : BuildMatricesStmt := Zkey.build_matrices
/-- one public input, records in rows 0, 1 and 2 of a domain of 4: `2 - 1 = 1` row is kept -/
example : buildMatrices ⟨4, 1, 4, (0,0), (0,0), (0,0,0,0), (0,0,0,0), (0,0), (0,0,0,0)⟩
      [⟨0, 0, 1, 0⟩, ⟨1, 1, 2, 0⟩, ⟨0, 2, 0, 0⟩] = .ok ⟨2, 3, 1, 1, 0, [[(0, 1)]], [[]]⟩ := by decide +kernel

end Zk
