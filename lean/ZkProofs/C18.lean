import ZkProofs.Lemmas.ParProofs
import ZkProofs.Lemmas.IdealLemmas
/-!
# C18 — the data-parallel parts do not depend on the schedule; the open-retry loop is bounded

* pmtree's `batch_recalculate` forks the two recursive calls of every node (`rayon::join`) over a
  map behind a lock. `Par.valOf` is the value a task returns, `Par.writesOf` the writes the task tree
  performs, both in terms of the map *before* the batch. The sequential model `Pm.batchRecalc`
  (left, then right, then own key) returns `valOf`, leaves the key log alone, and its final map is
  what ANY completion order of the writes produces (`C18_batch_recalculate_schedule_free`); the
  tasks write pairwise different keys, all of them inner keys whose left child is in the map — the
  keys whose value is read from the map are exactly those without one
  (`C18_tasks_write_disjoint_keys`).
* `witness_map_from_matrices` fills vectors cell by cell (`cfg_iter_mut!`): the result of a
  cell-wise fill is the same for every visiting order (`C18_cellwise_fill_order_free`) and is the
  obvious one (`C18_cellwise_fill_spec`).
* `SledDB::new_with_tries`: at most ten `open` calls, success exactly when an attempt `k < 10`
  succeeds after only `WouldBlock` answers, the time slept before it is `(10^k - 1)/9` ms, never more
  than 1 111 111 111 ms in total (`C18_retry_bounded`).

Generic in the node type `α`, the hash `H` and every lawful batch map `S`.
-/
namespace Zk

open Tree Par

variable {α : Type} [Inhabited α]
  (S : Type) [MapLike S (Nat × Nat) α] [LawfulMapLike S (Nat × Nat) α] (H : α → α → α)

def C18.exH : Nat → Nat → Nat := fun a b => 1000 * a + b + 1
abbrev C18.ExS := AList (Nat × Nat) Nat
/-- depth 2: a stale root, two stale inner nodes, four leaves -/
def C18.exMap : C18.ExS :=
  ⟨[((0, 0), 5), ((1, 0), 1), ((1, 1), 2), ((2, 0), 3), ((2, 1), 4), ((2, 2), 7), ((2, 3), 8)]⟩
/-- all keys of a depth-2 tree (and one outside) -/
def C18.exKeys : List (Nat × Nat) := [(0, 0), (1, 0), (1, 1), (2, 0), (2, 1), (2, 2), (2, 3), (3, 0)]

-- this statement and `C18_tasks_write_disjoint_keys` take the section's `[Inhabited α]`; neither needs it
set_option linter.unusedSectionVars false in
theorem C18_batch_recalculate_schedule_free :
    ∀ (f d i : Nat) (sub0 sub' : S) (v : α) (ks ks' : List (Nat × Nat)),
    Tree.Pm.batchRecalc H f d i sub0 ks = some (v, sub', ks') →
    Par.valOf H sub0 f d i = some v ∧ ks' = ks ∧
    ∀ (order : List ((Nat × Nat) × α)), order.Perm (Par.writesOf H sub0 f d i) →
      ∀ k, MapLike.get? (Par.applyWrites sub0 order) k = MapLike.get? sub' k :=
  Par.batchRecalc_schedule_free S H

/-- the three tasks of the depth-2 tree and their writes -/
example : Par.writesOf C18.exH C18.exMap 2 0 0 = [((1, 0), 3005), ((1, 1), 7009), ((0, 0), 3012010)] ∧
    Par.valOf C18.exH C18.exMap 2 0 0 = some 3012010 ∧
    (Tree.Pm.batchRecalc C18.exH 2 0 0 C18.exMap [(9, 9)]).map (fun r => (r.1, r.2.2)) =
      some (3012010, [(9, 9)]) := by decide +kernel

/-- two completion orders other than the sequential one, compared with the sequential result on every key -/
example :
    (Tree.Pm.batchRecalc C18.exH 2 0 0 C18.exMap []).map (fun r => C18.exKeys.map (MapLike.get? r.2.1)) =
      some (C18.exKeys.map (MapLike.get? (Par.applyWrites C18.exMap
        [((0, 0), 3012010), ((1, 1), 7009), ((1, 0), 3005)]))) ∧
    (Tree.Pm.batchRecalc C18.exH 2 0 0 C18.exMap []).map (fun r => C18.exKeys.map (MapLike.get? r.2.1)) =
      some (C18.exKeys.map (MapLike.get? (Par.applyWrites C18.exMap
        [((1, 1), 7009), ((0, 0), 3012010), ((1, 0), 3005)]))) ∧
    C18.exKeys.map (MapLike.get? (Par.applyWrites C18.exMap
        [((1, 1), 7009), ((0, 0), 3012010), ((1, 0), 3005)])) =
      [some 3012010, some 3005, some 7009, some 3, some 4, some 7, some 8, none] := by decide +kernel

example (sub' : C18.ExS) (v : Nat) (ks' : List (Nat × Nat))
    (h : Tree.Pm.batchRecalc C18.exH 2 0 0 C18.exMap [] = some (v, sub', ks')) :=
  (C18_batch_recalculate_schedule_free C18.ExS C18.exH 2 0 0 C18.exMap sub' v [] ks' h).2.2
    [((0, 0), 3012010), ((1, 1), 7009), ((1, 0), 3005)] (by decide +kernel)

set_option linter.unusedSectionVars false in
theorem C18_tasks_write_disjoint_keys :
    ∀ (f d i : Nat) (sub0 : S), ((Par.writesOf H sub0 f d i).map (·.1)).Nodup ∧
    ∀ w ∈ Par.writesOf H sub0 f d i, ∃ x, MapLike.get? sub0 (w.1.1 + 1, 2 * w.1.2) = some x :=
  Par.disjoint_writes S H

example := C18_tasks_write_disjoint_keys C18.ExS C18.exH 2 0 0 C18.exMap
/-- the written keys are the inner ones; a subtree without a left child in the map is read, not written -/
example : (Par.writesOf C18.exH C18.exMap 2 0 0).map (·.1) = [(1, 0), (1, 1), (0, 0)] ∧
    Par.writesOf C18.exH (⟨[((1, 0), 1), ((2, 2), 3), ((2, 3), 4)]⟩ : C18.ExS) 2 0 0 =
      [((1, 1), 3005), ((0, 0), 4006)] := by decide +kernel

theorem C18_cellwise_fill_order_free :
    ∀ {β : Type} (f : Nat → β) (o1 o2 : List Nat) (v : Array β), o1.Perm o2 →
    Par.parFill f o1 v = Par.parFill f o2 v :=
  fun f o1 o2 v h => Par.parFill_perm f o1 o2 v h

example : Par.parFill (fun i => 10 * i + 1) [3, 0, 2, 0, 7] #[0, 0, 0, 0, 0] = #[1, 0, 21, 31, 0] ∧
    Par.parFill (fun i => 10 * i + 1) [0, 7, 0, 2, 3] #[0, 0, 0, 0, 0] = #[1, 0, 21, 31, 0] := by decide +kernel

theorem C18_cellwise_fill_spec :
    ∀ {β : Type} [Inhabited β] (f : Nat → β) (order : List Nat) (v : Array β) (j : Nat), j < v.size →
    (Par.parFill f order v)[j]! = if j ∈ order then f j else v[j]! :=
  fun f order v j h => Par.parFill_spec f order v j h

example := C18_cellwise_fill_spec (fun i => 10 * i + 1) [3, 0, 2] #[5, 6, 7, 8] 1 (by decide)

theorem C18_retry_bounded : ∀ outcomes : Nat → Retry.OpenResult,
    (Retry.open_ outcomes).attempts ≤ 10 ∧
    ((Retry.open_ outcomes).success = true ↔
      ∃ k, k < 10 ∧ outcomes k = .ok ∧ ∀ j, j < k → outcomes j = .wouldBlock) ∧
    ((Retry.open_ outcomes).success = true →
      (Retry.open_ outcomes).sleptMs = (10 ^ ((Retry.open_ outcomes).attempts - 1) - 1) / 9) ∧
    (Retry.open_ outcomes).sleptMs ≤ 1111111111 :=
  Retry.retry_bound

/-- busy, busy, opened: three attempts, 1 + 10 ms slept -/
example : Retry.open_ (fun k => [Retry.OpenResult.wouldBlock, .wouldBlock, .ok].getD k .otherError) = ⟨true, 3, 11⟩ := by
  decide +kernel
/-- any other error stops at once -/
example : Retry.open_ (fun _ => .otherError) = ⟨false, 1, 0⟩ := by decide +kernel
/-- opened at the first attempt: nothing slept -/
example : Retry.open_ (fun _ => .ok) = ⟨true, 1, 0⟩ := by decide +kernel
/-- ten busy answers: gives up after 1 111 111 111 ms, an `ok` at the eleventh position is never tried -/
example : Retry.open_ (fun k => if k < 10 then .wouldBlock else .ok) = ⟨false, 10, 1111111111⟩ := by
  decide +kernel
/-- success at the last permitted attempt -/
example : Retry.open_ (fun k => if k < 9 then .wouldBlock else .ok) = ⟨true, 10, 111111111⟩ := by
  decide +kernel

end Zk
