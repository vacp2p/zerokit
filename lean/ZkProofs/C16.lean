import ZkProofs.Lemmas.PmFaultProofs
/-!
# C16 — persistence of the pmtree backend and injected storage failures

The store is the finite map of `ZkModel/Tree/Pm.lean` with a failure schedule (hook H1 on
`SledDB::put / put_batch / close`). Proved, generically in the node type, the hash, the default leaf and
every lawful store / batch map:

* reopening shows the same tree (root, every node and leaf, high-water mark, depth), whatever depth the
  caller passes, and the reopened tree keeps the invariant of the refinement — **partial**: under the
  extra hypothesis that the root node `(0,0)` is in the store. `Pm.Rel` alone does not give that
  (`getElem` falls back to the default cache, `load` to the default *leaf*); it holds in every state of
  every history (`C16_history_root_stored`), so the history-level statement `C16_history_reopens` is
  unconditional;
* the default-node cache is the one `load` recomputes; metadata survives reopening;
* a storage failure inside an operation is reported (`Ok` means the armed write was not reached);
* whatever happens (success, rejection, failure injected anywhere) an operation leaves every leaf it does
  not address reading as before, and never touches the stored depth — **partial**: (i) the literal stored
  entry may change from absent to the value it already read as (`set_range` writes back the siblings
  it loaded), (ii) `remove_indices_and_set_leaves` writes beyond the addressed span
  (`Pm.overshoot`, open finding C08-pm-batch) and those positions are excluded;
* hence every acknowledged leaf outside the failed operation's positions is what a reopened tree reads
  — **partial** for the same overshoot reason.

The statements that are false as written are refuted below on concrete instances.
-/
namespace Zk

open Tree

variable {α : Type} [Inhabited α] (H : α → α → α) (dflt : α)
  (D : Type) [MapLike D PmKey (PmVal α)] [LawfulMapLike D PmKey (PmVal α)]
  (S : Type) [MapLike S (Nat × Nat) α] [LawfulMapLike S (Nat × Nat) α]

def C16.exH : Nat → Nat → Nat := fun a b => 1000 * a + b + 7
abbrev C16.ExD := AList PmKey (PmVal Nat)
abbrev C16.ExS := AList (Nat × Nat) Nat
def C16.exOps : List (TreeOp Nat) :=
  [.set 1 5, .set 9 1, .append 3, .delete 3, .setRange 7 [], .batch 2 [6, 4] [], .delete 2]
def C16.exT : Tree.Pm Nat C16.ExD := Tree.Pm.run C16.ExS C16.exH 0 2 C16.exOps
def C16.armed (t : Tree.Pm Nat C16.ExD) (f : Nat) : Tree.Pm Nat C16.ExD :=
  { t with db := { t.db with failAt := some f, calls := 0 } }
def C16.reopenLeaves (t : Tree.Pm Nat C16.ExD) (argDepth : Nat) : List Nat :=
  let t' := Tree.Pm.load C16.exH 0 argDepth { kv := t.db.kv }
  (List.range (2 ^ t'.depth)).map (t'.getElem t'.depth)

theorem C16.unarm_eq {α D : Type} (t : Tree.Pm α D) (h : t.db.failAt = none) :
    ({ t with db := { t.db with failAt := none } } : Tree.Pm α D) = t := by
  obtain ⟨⟨kv, calls, fa⟩, a, b, c, d, e, f⟩ := t
  cases h
  rfl

theorem C16.exOps_covered : Tree.PmCovered C16.exOps := by decide

/-! ## (a) reopening -/

/-- `Pm.ReopenStmt` under the extra hypothesis that the root node is stored -/
theorem C16_reopen_shows_same_tree_partial :
    ∀ (t : Tree.Pm α D) (s : Tree.Ideal α) (argDepth : Nat), Tree.Pm.Rel H dflt t s →
      t.cache = (Tree.Pm.mkCache H dflt t.depth [dflt]).toArray →
      (∃ v, MapLike.get? t.db.kv (PmKey.node 0 0) = some (PmVal.fr v)) →
      Tree.Pm.Reopened H dflt (Tree.Pm.load H dflt argDepth { kv := t.db.kv }) s := by
  intro t s a h hc hr
  obtain ⟨hd, hn, hroot, hg⟩ := Pm.load_eq H dflt a h.inv hc hr
  refine ⟨hd.trans h.depth, hn.trans h.next, hroot.trans (Pm.obs_eq D H dflt t s h).1, fun i hi => ?_,
    fun l i hl hi => ?_⟩
  · rw [hd] at hi ⊢
    rw [hg]
    exact h.leaves i hi
  · rw [hd] at hl
    rw [hg]
    exact h.sim.node_eq hl hi

/-- a depth-1 tree with the two counters stored and no node: every lookup falls back to the default
    cache, the in-memory root is the default root -/
def C16.noRoot : Tree.Pm Nat C16.ExD :=
  ⟨{ kv := MapLike.insert (MapLike.insert MapLike.empty PmKey.depthKey (.num 1)) PmKey.nextKey (.num 0) },
    1, 0, (Tree.Pm.mkCache C16.exH 0 1 [0]).toArray, 7, #[0, 0], []⟩

theorem C16.noRoot_rel : Tree.Pm.Rel C16.exH 0 C16.noRoot (Tree.Ideal.new 1) :=
  ⟨⟨by decide +kernel, by decide +kernel, by decide +kernel, by decide +kernel, rfl, by decide +kernel,
    fun l i hl hi => by
      have hl0 : l = 0 := by have : l < 1 := hl; omega
      subst hl0
      have hi0 : i = 0 := by have : i < 1 := hi; omega
      subst hi0
      decide +kernel,
    rfl, rfl⟩, rfl, rfl, by decide +kernel, by decide +kernel⟩

/-- the statement as written is false: a related state whose store lacks the root node reloads with
    root `dflt` -/
example : ¬ Tree.Pm.ReopenStmt C16.ExD C16.exH 0 := by
  intro h
  have := (h C16.noRoot (Tree.Ideal.new 1) 1 C16.noRoot_rel rfl).root
  revert this
  decide +kernel

/-- `Pm.ReopenInvStmt` under the extra hypothesis that the root node is stored -/
theorem C16_reopened_tree_keeps_invariant_partial :
    ∀ (t : Tree.Pm α D) (s : Tree.Ideal α), Tree.Pm.Rel H dflt t s →
      t.cache = (Tree.Pm.mkCache H dflt t.depth [dflt]).toArray →
      (∃ v, MapLike.get? t.db.kv (PmKey.node 0 0) = some (PmVal.fr v)) →
      Tree.Pm.Inv H (Tree.Pm.load H dflt t.depth { kv := t.db.kv }) := by
  intro t s h hc hr
  obtain ⟨hd, hn, hroot, hg⟩ := Pm.load_eq H dflt t.depth h.inv hc hr
  refine ⟨Pm.mkCache_size H dflt _, ?_, by rw [hn, hd]; exact h.inv.next_le, by rw [hd]; exact h.inv.depth_pos,
    rfl, by rw [hroot, hg]; exact h.inv.root_eq, fun l i hl hi => ?_, by rw [hd]; exact h.inv.stored_depth,
    by rw [hn]; exact h.inv.stored_next⟩
  · show (Array.replicate (2 ^ t.depth) 0).size = _
    rw [hd, Array.size_replicate]
  · rw [hd] at hl
    rw [hg, hg, hg]
    exact h.inv.cons l i hl hi

/-- the statement as written is false on the same state: the reloaded root is not the root node read -/
example : ¬ Tree.Pm.ReopenInvStmt C16.ExD C16.exH 0 := by
  intro h
  have := (h C16.noRoot (Tree.Ideal.new 1) C16.noRoot_rel rfl).root_eq
  revert this
  decide +kernel

/-- the root node is stored, the depth is the creation depth and the default cache is the recomputable
    one in every state of every history -/
theorem C16_history_root_stored (d : Nat) (ops : List (TreeOp α)) :
    (Tree.Pm.run (D := D) S H dflt d ops).depth = d ∧
    (Tree.Pm.run (D := D) S H dflt d ops).cache = (Tree.Pm.mkCache H dflt d [dflt]).toArray ∧
    ∃ v, MapLike.get? (Tree.Pm.run (D := D) S H dflt d ops).db.kv (PmKey.node 0 0) = some (PmVal.fr v) :=
  Pm.run_hist S H dflt d ops

/-- after every covered history, reopening the store (with any depth argument) shows the ideal tree -/
theorem C16_history_reopens (d : Nat) (hd : 0 < d) (ops : List (TreeOp α)) (hc : Tree.PmCovered ops)
    (argDepth : Nat) :
    Tree.Pm.Reopened H dflt
      (Tree.Pm.load H dflt argDepth { kv := (Tree.Pm.run (D := D) S H dflt d ops).db.kv })
      (Tree.Ideal.run dflt d ops) := by
  obtain ⟨h1, h2, h3⟩ := Pm.run_hist (D := D) S H dflt d ops
  exact C16_reopen_shows_same_tree_partial H dflt D _ _ argDepth (Pm.run_rel S H dflt d hd ops hc)
    (by rw [h1]; exact h2) h3

/-- … and the reopened tree (same depth argument) satisfies the invariant again -/
theorem C16_history_reopened_invariant (d : Nat) (hd : 0 < d) (ops : List (TreeOp α))
    (hc : Tree.PmCovered ops) :
    Tree.Pm.Inv H (Tree.Pm.load H dflt d { kv := (Tree.Pm.run (D := D) S H dflt d ops).db.kv }) := by
  obtain ⟨h1, h2, h3⟩ := Pm.run_hist (D := D) S H dflt d ops
  have := C16_reopened_tree_keeps_invariant_partial H dflt D _ _ (Pm.run_rel S H dflt d hd ops hc)
    (by rw [h1]; exact h2) h3
  rw [h1] at this
  exact this

example := C16_history_reopens C16.exH 0 C16.ExD C16.ExS 2 (by decide) C16.exOps C16.exOps_covered 7
example := C16_history_reopened_invariant C16.exH 0 C16.ExD C16.ExS 2 (by decide) C16.exOps C16.exOps_covered
/-- reopened with a wrong depth argument: depth, high-water mark, root and leaves are the specification's -/
example : (fun t' : Tree.Pm Nat C16.ExD => (t'.depth, t'.next, t'.root, t'.flags.size))
      (Tree.Pm.load C16.exH 0 7 { kv := C16.exT.db.kv }) = (2, 4, 12018, 128) ∧
    C16.reopenLeaves C16.exT 7 = [0, 5, 0, 4] ∧
    (Tree.Ideal.run 0 2 C16.exOps).root C16.exH 0 = 12018 ∧
    (List.range 4).map ((Tree.Ideal.run 0 2 C16.exOps).leaf 0) = [0, 5, 0, 4] := by decide +kernel

/-! ## cache and metadata -/

theorem C16_cache_is_recomputable : Tree.Pm.CacheStmt D S H dflt := Pm.cache_stable D S H dflt

example : C16.exT.cache = (Tree.Pm.mkCache C16.exH 0 2 [0]).toArray ∧ C16.exT.cache = #[7014, 7, 0] := by
  decide +kernel

-- this statement takes the section's `[Inhabited α]`; `Pm.metadata_survives` needs none
set_option linter.unusedSectionVars false in
theorem C16_metadata_survives_reopen : Tree.Pm.MetadataStmt D H dflt := Pm.metadata_survives D H dflt

example : (fun r : Tree.Pm Nat C16.ExD × Outcome Unit =>
      (r.2, Tree.Pm.getMetadata r.1, Tree.Pm.getMetadata (Tree.Pm.load C16.exH 0 2 { kv := r.1.db.kv })))
    (Tree.Pm.setMetadata [1, 2, 3] C16.exT) = (.ok (), [1, 2, 3], [1, 2, 3]) := by decide +kernel

/-! ## (b) failures are reported -/

theorem C16_storage_failure_is_reported : Tree.Pm.FailureReportedStmt D S H dflt :=
  Pm.failure_reported D S H dflt

/-- a `set` on a depth-2 tree performs four writes (leaf, two inner nodes, high-water mark): armed at
    write 2 it returns `Err` having consumed three writes; armed at write 4 it returns `Ok` with the
    armed write still ahead -/
example : (fun r : Tree.Pm Nat C16.ExD × Outcome Unit => (r.2, r.1.db.calls, r.1.db.failAt))
      (Tree.Pm.call C16.ExS C16.exH 0 (C16.armed C16.exT 2) (.op (.set 0 8))) = (.err, 3, some 2) ∧
    (fun r : Tree.Pm Nat C16.ExD × Outcome Unit => (r.2, r.1.db.calls, r.1.db.failAt))
      (Tree.Pm.call C16.ExS C16.exH 0 (C16.armed C16.exT 4) (.op (.set 0 8))) = (.ok (), 4, some 4) := by
  decide +kernel

/-! ## (c) what a failed operation leaves behind -/

/-- `Pm.LeafFrameStmt` corrected: the stored entry of an unaddressed leaf is untouched or rewritten
    with the value it already read as, so it reads the same; the stored depth is untouched; the
    positions `remove_indices_and_set_leaves` overshoots to are excluded -/
theorem C16_unaddressed_leaves_untouched_partial :
    ∀ (t : Tree.Pm α D) (c : PmCall α) (p : Nat), 0 < t.depth → ¬ addressed t c p →
      ¬ Tree.Pm.overshoot c p →
      let r := Tree.Pm.call S H dflt t c
      (MapLike.get? r.1.db.kv (PmKey.node t.depth p) = MapLike.get? t.db.kv (PmKey.node t.depth p) ∨
        MapLike.get? r.1.db.kv (PmKey.node t.depth p) = some (PmVal.fr (t.getElem t.depth p))) ∧
      r.1.getElem t.depth p = t.getElem t.depth p ∧
      MapLike.get? r.1.db.kv PmKey.depthKey = MapLike.get? t.db.kv PmKey.depthKey := by
  intro t c p hd ha ho
  have hc : c ≠ .op .reset := by
    intro hc; subst hc; exact ha trivial
  have hu := (Pm.call_spec S H dflt t c hc).1
  have hp : ¬ (addressed t c p ∨ Pm.overshoot c p) := fun h => h.elim ha ho
  exact ⟨hu.leaf hd p hp, hu.getElem hd p hp, hu.depthKey⟩

/-- the statement as written is false (1): on a fresh depth-2 tree `set_range(3, [5])` stores leaf 2
    (its sibling, read as the default) although the entry was absent -/
example : ¬ Tree.Pm.LeafFrameStmt C16.ExD C16.ExS C16.exH 0 := by
  intro h
  have := (h (Tree.Pm.new C16.exH 0 2 { kv := MapLike.empty }).1 (.op (.setRange 3 [5])) 2
    (by decide +kernel) (by simp [addressed])).1
  have := congrArg Option.isSome this
  revert this
  decide +kernel

/-- the statement as written is false (2), also at the level of what is read: on a depth-3 tree with leaf
    2 set, `override_range(4, [7], [1])` returns `Ok`, does not reset leaf 1, and writes leaves 5 and 7 -/
example : (fun r : Tree.Pm Nat C16.ExD × Outcome Unit => (r.2, (List.range 8).map (r.1.getElem 3)))
      (Tree.Pm.call C16.ExS C16.exH 0 (Tree.Pm.run C16.ExS C16.exH 0 3 [.set 2 9, .set 1 6])
        (.op (.batch 4 [7] [1]))) = (.ok (), [0, 6, 9, 0, 0, 9, 0, 7]) ∧
    ¬ addressed (Tree.Pm.run (D := C16.ExD) C16.ExS C16.exH 0 3 [.set 2 9, .set 1 6]) (.op (.batch 4 [7] [1])) 7 ∧
    Tree.Pm.overshoot (.op (.batch 4 [7] [1]) : PmCall Nat) 7 := by
  refine ⟨by decide +kernel, ?_, ?_⟩
  · simp [addressed]
  · refine ⟨by simp, by simp, by omega, ?_⟩
    decide +kernel

/-- a `set` at 0 armed at write 2 returns `Err`; the store then holds the new leaf 0 but the old root
    (the tree is torn), the stored depth is untouched and a reopened tree reads the old leaves 1, 2, 3 -/
example : (Tree.Pm.call C16.ExS C16.exH 0 (C16.armed C16.exT 2) (.op (.set 0 8))).2 = .err ∧
    C16.reopenLeaves C16.exT 2 = [0, 5, 0, 4] ∧
    C16.reopenLeaves (Tree.Pm.call C16.ExS C16.exH 0 (C16.armed C16.exT 2) (.op (.set 0 8))).1 2 = [8, 5, 0, 4] ∧
    (Tree.Pm.load C16.exH 0 2
      { kv := (Tree.Pm.call C16.ExS C16.exH 0 (C16.armed C16.exT 2) (.op (.set 0 8))).1.db.kv }).root = 12018 := by
  decide +kernel

/-- `Pm.AckedPreservedStmt` with the overshoot positions excluded -/
theorem C16_acknowledged_updates_survive_failed_operation_partial :
    ∀ (t : Tree.Pm α D) (s : Tree.Ideal α) (c : PmCall α) (f : Nat) (argDepth p : Nat),
      Tree.Pm.Rel H dflt { t with db := { t.db with failAt := none } } s →
      t.cache = (Tree.Pm.mkCache H dflt t.depth [dflt]).toArray →
      c ≠ .op .reset → p < 2 ^ t.depth → ¬ addressed t c p → ¬ Tree.Pm.overshoot c p →
      let t' := Tree.Pm.load H dflt argDepth
        { kv := (Tree.Pm.call S H dflt { t with db := { t.db with failAt := some f } } c).1.db.kv }
      t'.depth = s.depth ∧ t'.getElem t'.depth p = s.leaf dflt p := by
  intro t s c f a p hrel hcache hc hp ha ho
  let t0 : Tree.Pm α D := { t with db := { t.db with failAt := some f } }
  have hu := (Pm.call_spec S H dflt t0 c hc).1
  have hg := hu.getElem (show 0 < t0.depth from hrel.inv.depth_pos) p
    fun h => h.elim ha ho
  show (Pm.load H dflt a { kv := (Pm.call S H dflt t0 c).1.db.kv }).depth = s.depth ∧
    (Pm.load H dflt a { kv := (Pm.call S H dflt t0 c).1.db.kv }).getElem
      (Pm.load H dflt a { kv := (Pm.call S H dflt t0 c).1.db.kv }).depth p = s.leaf dflt p
  generalize (Pm.call S H dflt t0 c).1 = t1 at hu hg ⊢
  have hd : (Pm.load H dflt a { kv := t1.db.kv }).depth = t.depth :=
    Pm.load_depth H dflt a _ _ (hu.depthKey.trans hrel.inv.stored_depth)
  rw [hd, Pm.load_getElem H dflt a t1 (hd.trans hu.depth.symm) (by rw [hu.cache, hu.depth]; exact hcache), hg]
  exact ⟨hrel.depth, hrel.leaves p hp⟩

/-- the statement as written is false: the overshoot of `override_range(4, [7], [1])` changes the
    acknowledged (default) leaf 7, which the call does not address -/
example : ¬ Tree.Pm.AckedPreservedStmt C16.ExD C16.ExS C16.exH 0 := by
  intro h
  have hrel := Pm.run_rel (D := C16.ExD) C16.ExS C16.exH 0 3 (by decide) [.set 2 9, .set 1 6]
    (by decide)
  generalize ht : Tree.Pm.run (D := C16.ExD) C16.ExS C16.exH 0 3 [.set 2 9, .set 1 6] = t at hrel
  have hrel' : Tree.Pm.Rel C16.exH 0 { t with db := { t.db with failAt := none } }
      (Tree.Ideal.run 0 3 [.set 2 9, .set 1 6]) := by
    rw [C16.unarm_eq t hrel.inv.nofail]; exact hrel
  have := (h t _ (.op (.batch 4 [7] [1])) 100 3 7 hrel'
    (by subst ht; decide +kernel) (by simp) (by subst ht; decide +kernel) (by simp [addressed])).2
  subst ht
  revert this
  decide +kernel

/-- a batch write armed at its first storage write fails as a whole; reopened, every leaf is the
    acknowledged one -/
example : (Tree.Pm.call C16.ExS C16.exH 0 (C16.armed C16.exT 0) (.op (.setRange 0 [1, 2, 3]))).2 = .err ∧
    C16.reopenLeaves (Tree.Pm.call C16.ExS C16.exH 0 (C16.armed C16.exT 0) (.op (.setRange 0 [1, 2, 3]))).1 5
      = [0, 5, 0, 4] := by
  decide +kernel

end Zk
